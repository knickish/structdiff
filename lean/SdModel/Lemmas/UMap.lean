import SdModel.Model.UMap
import SdModel.Lemmas.Assoc

/-!
Lemmas for C12 and the map parts of C16 / C19 / C20, all pointwise in the key: a change list says `obs es x` about
`x`; applying it yields `applyKey (base's binding) (obs es x)` (`lookup_applyMod`); the comparison's list says
`delta p c` (`obs_entriesOf`); the round trip is `applyKey p (delta p c) = c` (`applyKey_delta`).
-/
namespace UMap
variable {κ ν : Type} [DecidableEq κ]

def hasKey (m : MMap κ ν) (x : κ) : Bool := (mget m x).isSome

def Pos (m : MMap κ ν) : Prop := ∀ e ∈ m, 0 < e.2.2

theorem mget_eq (m : MMap κ ν) (x : κ) : mget m x = Assoc.lookup m x := by
  induction m with
  | nil => rfl
  | cons e t ih => simp only [mget, Assoc.lookup, ih]

theorem mput_eq (m : MMap κ ν) (x : κ) (v : ν) (n : Nat) : mput m x v n = Assoc.upsert (fun _ => (v, n)) m x := by
  induction m with
  | nil => rfl
  | cons e t ih => simp only [mput, Assoc.upsert, ih]

theorem mget_mput (m : MMap κ ν) (x y : κ) (v : ν) (n : Nat) :
    mget (mput m x v n) y = if y = x then some (v, n) else mget m y := by
  rw [mget_eq, mget_eq, mput_eq, Assoc.lookup_upsert]

theorem mbump_eq (m : MMap κ ν) (x : κ) (n : Nat) : mbump m x n = Assoc.update (fun vc => some (vc.1, vc.2 + n)) m x := by
  induction m with
  | nil => rfl
  | cons e t ih => simp only [mbump, Assoc.update, ih]

theorem mget_mbump (m : MMap κ ν) (x y : κ) (n : Nat) :
    mget (mbump m x n) y = if y = x then (mget m y).map (fun vc => (vc.1, vc.2 + n)) else mget m y := by
  fun_induction mbump m x n <;> grind [mget]

/-- saturating removal of `n` copies from a (value, count) binding -/
def sub (n : Nat) (vc : ν × Nat) : Option (ν × Nat) := if vc.2 > n then some (vc.1, vc.2 - n) else none

theorem msub_eq (m : MMap κ ν) (x : κ) (n : Nat) : msub m x n = Assoc.update (sub n) m x := by
  induction m with
  | nil => rfl
  | cons e t ih =>
    rw [msub, Assoc.update, ih, sub]
    by_cases h : e.2.2 > n
    · rw [if_pos h, if_pos h]
    · rw [if_neg h, if_neg h]

theorem mget_msub (m : MMap κ ν) (x y : κ) (n : Nat) (h : (Assoc.keys m).Nodup) :
    mget (msub m x n) y =
      if y = x then (mget m y).bind (fun vc => if vc.2 > n then some (vc.1, vc.2 - n) else none) else mget m y := by
  rw [mget_eq, mget_eq, msub_eq, Assoc.lookup_update _ x y h]
  exact ite_congr rfl (fun hy => hy ▸ rfl) fun _ => rfl

theorem merase_eq (m : MMap κ ν) (x : κ) : merase m x = (Assoc.lookup m x, Assoc.erase m x) := by
  induction m with
  | nil => rfl
  | cons e t ih => simp only [merase, Assoc.erase, Assoc.update, Assoc.lookup, ih]; split <;> rfl

theorem merase_fst (m : MMap κ ν) (x : κ) : (merase m x).1 = mget m x := by rw [merase_eq, mget_eq]

theorem mget_merase (m : MMap κ ν) (x y : κ) (h : (Assoc.keys m).Nodup) :
    mget (merase m x).2 y = if y = x then none else mget m y := by
  rw [merase_eq, mget_eq, mget_eq, Assoc.lookup_update _ x y h, Option.bind_fun_none]

theorem sub_sub (n n' : Nat) (o : Option (ν × Nat)) : (o.bind (sub n)).bind (sub n') = o.bind (sub (n + n')) := by
  cases o with
  | none => rfl
  | some vc =>
    simp only [Option.bind_some, sub]
    split
    · simp only [Option.bind_some, sub, gt_iff_lt, Nat.lt_sub_iff_add_lt', Nat.sub_sub]
    · exact (if_neg fun h => ‹¬_› (Nat.lt_of_le_of_lt (Nat.le_add_right n n') h)).symm

theorem bind_sub_zero {m : MMap κ ν} (hp : Pos m) (x : κ) : (Assoc.lookup m x).bind (sub 0) = Assoc.lookup m x := by
  cases h : Assoc.lookup m x with
  | none => rfl
  | some vc => have := hp _ (Assoc.mem_of_lookup h); simp only [Option.bind_some, sub, gt_iff_lt, this, if_true, Nat.sub_zero]

theorem pos_update_sub (n : Nat) {m : MMap κ ν} (x : κ) (hp : Pos m) : Pos (Assoc.update (sub n) m x) := fun e he =>
  (Assoc.mem_update he).elim (hp e) fun ⟨_, _, hfb⟩ =>
    have h := Option.ite_none_right_eq_some.mp hfb
    Option.some.inj h.2 ▸ Nat.sub_pos_of_lt h.1

/-- first value bound to `k` in a list of pairs -/
def plookup : List (κ × ν) → κ → Option ν
  | [], _ => none
  | (k, v) :: t, x => if k = x then some v else plookup t x

def UniqueKeys (l : List (κ × ν)) : Prop := (l.map (·.1)).Nodup

theorem plookup_eq (l : List (κ × ν)) (x : κ) : plookup l x = Assoc.lookup l x := by
  induction l with
  | nil => rfl
  | cons e t ih => simp only [plookup, Assoc.lookup, ih]

/-- a map held as a list of pairs, every pair once -/
def ones (l : List (κ × ν)) : MMap κ ν := l.map fun kv => (kv.1, kv.2, 1)

theorem keys_ones (l : List (κ × ν)) : Assoc.keys (ones l) = l.map (·.1) := by
  rw [ones, Assoc.keys, List.map_map]; rfl

theorem nodup_ones {l : List (κ × ν)} (h : UniqueKeys l) : (Assoc.keys (ones l)).Nodup := by rw [keys_ones]; exact h

theorem lookup_ones (l : List (κ × ν)) (x : κ) : Assoc.lookup (ones l) x = (plookup l x).map (fun v => (v, 1)) :=
  (plookup_eq l x).symm ▸ Assoc.lookup_map (fun _ v => (v, 1)) l x

theorem pos_ones (l : List (κ × ν)) : Pos (ones l) := fun e he => by
  obtain ⟨_, _, rfl⟩ := List.mem_map.mp he; exact Nat.one_pos

theorem length_ones (l : List (κ × ν)) : (ones l).length = l.length := List.length_map _

theorem expand_ones (l : List (κ × ν)) (M : MMap κ ν) (hM : (Assoc.keys M).Nodup)
    (h : ∀ x, Assoc.lookup M x = (plookup l x).map (fun v => (v, 1))) :
    UniqueKeys (expand M) ∧ ∀ k, plookup (expand M) k = plookup l k := by
  have h1 : ∀ e ∈ M, e.2.2 = 1 := fun e he => by
    obtain ⟨w, _, hw⟩ := Option.map_eq_some_iff.mp ((h e.1).symm.trans (Assoc.lookup_of_mem hM (b := e.2) he))
    exact hw ▸ rfl
  have he : expand M = M.map fun e => (e.1, e.2.1) :=
    List.map_eq_flatMap ▸ congrArg List.flatten
      (List.map_congr_left fun e he => congrArg (List.replicate · (e.1, e.2.1)) (h1 e he))
  rw [UniqueKeys, he, List.map_map]
  exact ⟨hM, fun k => by rw [plookup_eq, Assoc.lookup_map (fun _ vc => vc.1) M k, h]; cases plookup l k <;> rfl⟩

def remTot : List (Change κ ν) → κ → Nat
  | [], _ => 0
  | .removeMany k n :: es, x => (if k = x then n else 0) + remTot es x
  | .removeSingle k :: es, x => (if k = x then 1 else 0) + remTot es x
  | _ :: es, x => remTot es x

def insTot : List (Change κ ν) → κ → Nat
  | [], _ => 0
  | .insertMany k _ n :: es, x => (if k = x then n else 0) + insTot es x
  | .insertSingle k _ :: es, x => (if k = x then 1 else 0) + insTot es x
  | _ :: es, x => insTot es x

/-- value of the first insertion entry for the key -/
def insVal : List (Change κ ν) → κ → Option ν
  | [], _ => none
  | .insertMany k v _ :: es, x => if k = x then some v else insVal es x
  | .insertSingle k v :: es, x => if k = x then some v else insVal es x
  | _ :: es, x => insVal es x

def cnt : Change κ ν → Nat
  | .insertMany _ _ n | .removeMany _ n => n
  | .insertSingle _ _ | .removeSingle _ => 1

def keyOf : Change κ ν → κ
  | .insertMany k _ _ | .removeMany k _ | .insertSingle k _ | .removeSingle k => k

theorem remTot_cons (e : Change κ ν) (es : List (Change κ ν)) (x : κ) :
    remTot (e :: es) x = (if isInsert e = false ∧ keyOf e = x then cnt e else 0) + remTot es x := by
  cases e <;> simp [remTot, isInsert, keyOf, cnt]

theorem insTot_cons (e : Change κ ν) (es : List (Change κ ν)) (x : κ) :
    insTot (e :: es) x = (if isInsert e = true ∧ keyOf e = x then cnt e else 0) + insTot es x := by
  cases e <;> simp [insTot, isInsert, keyOf, cnt]

/-- filtering keeps a key's summary when it keeps every entry that counts towards it -/
theorem remTot_filter (p : Change κ ν → Bool) (es : List (Change κ ν)) (x : κ)
    (hp : ∀ e, isInsert e = false → keyOf e = x → p e = true) : remTot (es.filter p) x = remTot es x := by
  induction es with
  | nil => rfl
  | cons e es ih =>
    rw [List.filter_cons, remTot_cons]
    split
    · rw [remTot_cons, ih]
    · rename_i h; rw [ih, if_neg (fun h' => h (hp e h'.1 h'.2)), Nat.zero_add]

theorem insTot_filter (p : Change κ ν → Bool) (es : List (Change κ ν)) (x : κ)
    (hp : ∀ e, isInsert e = true → keyOf e = x → p e = true) : insTot (es.filter p) x = insTot es x := by
  induction es with
  | nil => rfl
  | cons e es ih =>
    rw [List.filter_cons, insTot_cons]
    split
    · rw [insTot_cons, ih]
    · rename_i h; rw [ih, if_neg (fun h' => h (hp e h'.1 h'.2)), Nat.zero_add]

theorem insVal_filter (p : Change κ ν → Bool) (es : List (Change κ ν)) (x : κ)
    (hp : ∀ e, isInsert e = true → keyOf e = x → p e = true) : insVal (es.filter p) x = insVal es x := by
  induction es with
  | nil => rfl
  | cons e es ih =>
    rw [List.filter_cons]
    split
    · cases e <;> simp only [insVal, ih]
    · rename_i h
      have h : ¬ (isInsert e = true ∧ keyOf e = x) := fun h' => h (hp e h'.1 h'.2)
      cases e with
      | insertMany k _ _ | insertSingle k _ => exact ih.trans (if_neg fun hk => h ⟨rfl, hk⟩).symm
      | removeMany k _ | removeSingle k => exact ih

theorem keyOf_mk (k : κ) (v : ν) (n : Nat) (d : Dir) : keyOf (mkChange k v n d) = k := by
  cases d <;> exact (apply_ite keyOf ..).trans (ite_self k)

theorem cnt_mk (k : κ) (v : ν) (n : Nat) (d : Dir) : cnt (mkChange k v n d) = n := by
  cases d <;> exact (apply_ite cnt ..).trans (ite_eq_right_iff.mpr Eq.symm)

theorem isInsert_mk (k : κ) (v : ν) (n : Nat) (d : Dir) : isInsert (mkChange k v n d) = decide (d = .ins) := by
  cases d <;> exact (apply_ite isInsert ..).trans (ite_self _)

theorem remTot_mk (k : κ) (v : ν) (n : Nat) (d : Dir) (es : List (Change κ ν)) (x : κ) :
    remTot (mkChange k v n d :: es) x = (if d = .rem ∧ k = x then n else 0) + remTot es x := by
  cases d <;> simp [remTot_cons, isInsert_mk, keyOf_mk, cnt_mk]

theorem insTot_mk (k : κ) (v : ν) (n : Nat) (d : Dir) (es : List (Change κ ν)) (x : κ) :
    insTot (mkChange k v n d :: es) x = (if d = .ins ∧ k = x then n else 0) + insTot es x := by
  simp only [insTot_cons, isInsert_mk, keyOf_mk, cnt_mk, decide_eq_true_eq]

theorem insVal_mk (k : κ) (v : ν) (n : Nat) (d : Dir) (es : List (Change κ ν)) (x : κ) :
    insVal (mkChange k v n d :: es) x = if d = .ins ∧ k = x then some v else insVal es x := by
  cases d <;> simp only [mkChange] <;> split <;> simp_all [insVal]

/-- what a change list says about one key: total removed, total inserted, first inserted value -/
def obs (es : List (Change κ ν)) (x : κ) : Nat × Nat × Option ν := (remTot es x, insTot es x, insVal es x)

theorem applyRemovals_cons (m : MMap κ ν) (e : Change κ ν) (es : List (Change κ ν)) :
    applyRemovals m (e :: es) = applyRemovals (if isInsert e then m else msub m (keyOf e) (cnt e)) es := by
  cases e <;> rfl

/-- removal pass: per key, saturating subtraction of the removed total; the key disappears at or below zero -/
theorem applyRemovals_spec (m : MMap κ ν) (es : List (Change κ ν)) (h : (Assoc.keys m).Nodup) (hp : Pos m) :
    (Assoc.keys (applyRemovals m es)).Nodup ∧
    ∀ x, Assoc.lookup (applyRemovals m es) x = (Assoc.lookup m x).bind (sub (remTot es x)) := by
  induction es generalizing m with
  | nil => exact ⟨h, fun x => (bind_sub_zero hp x).symm⟩
  | cons e es ih =>
    rw [applyRemovals_cons]
    split
    · rename_i hi
      simpa only [remTot_cons, hi, Bool.true_eq_false, false_and, if_false, Nat.zero_add] using ih m h hp
    · rename_i hi
      rw [msub_eq]
      obtain ⟨a1, a2⟩ := ih _ (Assoc.nodup_update _ _ h) (pos_update_sub _ _ hp)
      refine ⟨a1, fun x => ?_⟩
      rw [a2, Assoc.lookup_update _ _ _ h, remTot_cons]
      by_cases hx : x = keyOf e
      · subst hx; simp only [if_true, sub_sub, hi, and_self]
      · simp only [hx, Ne.symm hx, if_false, and_false, Nat.zero_add]

/-- `match map.get_mut(&k) { Some(vc) => vc.1 += n, None => { map.insert(k, (v, n)); } }` -/
def bumpOr (v : ν) (n : Nat) : Option (ν × Nat) → ν × Nat
  | some vc => (vc.1, vc.2 + n)
  | none => (v, n)

theorem bump_or_put_eq (m : MMap κ ν) (k : κ) (v : ν) (n : Nat) :
    (match mget m k with | some _ => mbump m k n | none => mput m k v n) = Assoc.upsert (bumpOr v n) m k := by
  induction m with
  | nil => rfl
  | cons e t ih =>
    unfold mget mbump mput Assoc.upsert
    by_cases h : e.1 = k
    · simp only [if_pos h]; rfl
    · simp only [if_neg h, ← ih]; cases mget t k <;> rfl

/-- insertion pass: an existing key only gains count (its value is kept); a missing key takes the first inserted value -/
theorem applyInsertions_spec (m : MMap κ ν) (es : List (Change κ ν)) (h : (Assoc.keys m).Nodup) :
    (Assoc.keys (applyInsertions m es)).Nodup ∧
    ∀ x, Assoc.lookup (applyInsertions m es) x =
      match Assoc.lookup m x with
      | some vc => some (vc.1, vc.2 + insTot es x)
      | none => (insVal es x).map (fun v => (v, insTot es x)) := by
  induction es generalizing m with
  | nil => exact ⟨h, fun x => by rw [applyInsertions]; cases Assoc.lookup m x <;> rfl⟩
  | cons e es ih =>
    -- `insertSingle k v` behaves as `insertMany k v 1`
    have ins : ∀ k v n,
        (Assoc.keys (applyInsertions (match mget m k with | some _ => mbump m k n | none => mput m k v n) es)).Nodup ∧
        ∀ x, Assoc.lookup (applyInsertions (match mget m k with | some _ => mbump m k n | none => mput m k v n) es) x =
          match Assoc.lookup m x with
          | some vc => some (vc.1, vc.2 + ((if k = x then n else 0) + insTot es x))
          | none => (if k = x then some v else insVal es x).map (fun v => (v, (if k = x then n else 0) + insTot es x)) := by
      intro k v n
      rw [bump_or_put_eq]
      obtain ⟨a1, a2⟩ := ih _ (Assoc.nodup_upsert _ k h)
      refine ⟨a1, fun x => ?_⟩
      rw [a2, Assoc.lookup_upsert]
      by_cases e : x = k
      · subst e; cases Assoc.lookup m x <;> simp only [if_true, bumpOr, Option.map_some, Nat.add_assoc]
      · simp only [if_neg e, if_neg (Ne.symm e), Nat.zero_add]
    cases e with
    | insertMany k v n => exact ins k v n
    | insertSingle k v => exact ins k v 1
    | removeMany k _ | removeSingle k => exact ih m h

/-- what applying a change list does to a key bound to `b`, given what the list says about the key -/
def applyKey (b : Option (ν × Nat)) (o : Nat × Nat × Option ν) : Option (ν × Nat) :=
  match b.bind (sub o.1) with
  | some vc => some (vc.1, vc.2 + o.2.1)
  | none => o.2.2.map fun v => (v, o.2.1)

/-- the collected-map part of `apply_unordered_hashdiffs`: removals, then insertions -/
def applyMod (B : MMap κ ν) (es : List (Change κ ν)) : MMap κ ν :=
  applyInsertions (applyRemovals B (es.filter fun e => !isInsert e)) (es.filter isInsert)

theorem apply_modify (base : List (κ × ν)) (es : List (Change κ ν)) :
    apply base (.modify es) = expand (applyMod (collectKeyEq base) es) := rfl

theorem lookup_applyMod (B : MMap κ ν) (es : List (Change κ ν)) (hB : (Assoc.keys B).Nodup) (pB : Pos B) :
    (Assoc.keys (applyMod B es)).Nodup ∧ ∀ x, Assoc.lookup (applyMod B es) x = applyKey (Assoc.lookup B x) (obs es x) := by
  obtain ⟨a1, a2⟩ := applyRemovals_spec B (es.filter fun e => !isInsert e) hB pB
  obtain ⟨b1, b2⟩ := applyInsertions_spec _ (es.filter isInsert) a1
  exact ⟨b1, fun x => by
    rw [applyMod, b2, a2, remTot_filter _ es x fun e h _ => by rw [h]; rfl, insTot_filter _ es x fun _ h _ => h,
      insVal_filter _ es x fun _ h _ => h]
    rfl⟩

theorem stepKE_eq (m : MMap κ ν) (kv : κ × ν) : stepKE m kv = Assoc.upsert (bumpOr kv.2 1) m kv.1 :=
  bump_or_put_eq m kv.1 kv.2 1

theorem mem_keys_collectKeyEq (l : List (κ × ν)) : ∀ k ∈ Assoc.keys (collectKeyEq l), k ∈ l.map (·.1) :=
  List.foldlRecOn (motive := fun m => ∀ k ∈ Assoc.keys m, k ∈ Assoc.keys l) l stepKE (fun _ h => (List.not_mem_nil h).elim)
    fun m ih a ha k hk => (Assoc.mem_keys_upsert (stepKE_eq m a ▸ hk)).elim (ih k) fun e => e ▸ List.mem_map_of_mem ha

theorem mem_keys_applyRemovals (m : MMap κ ν) (es : List (Change κ ν)) :
    ∀ k ∈ Assoc.keys (applyRemovals m es), k ∈ Assoc.keys m := by
  induction es generalizing m with
  | nil => exact fun k hk => hk
  | cons e es ih =>
    intro k hk
    rw [applyRemovals_cons] at hk
    split at hk
    · exact ih m k hk
    · have := ih _ k hk; rw [msub_eq] at this; exact (Assoc.keys_update_sublist _ m _).subset this

theorem mem_keys_applyInsertions (m : MMap κ ν) (es : List (Change κ ν)) :
    ∀ k ∈ Assoc.keys (applyInsertions m es), k ∈ Assoc.keys m ∨ k ∈ es.map keyOf := by
  induction es generalizing m with
  | nil => exact fun k hk => .inl hk
  | cons e es ih =>
    have ins : ∀ k' v n,
        ∀ k ∈ Assoc.keys (applyInsertions (match mget m k' with | some _ => mbump m k' n | none => mput m k' v n) es),
        k ∈ Assoc.keys m ∨ k ∈ k' :: es.map keyOf := by
      intro k' v n k hk
      rw [bump_or_put_eq] at hk
      rcases ih _ k hk with h | h
      · exact (Assoc.mem_keys_upsert h).imp_right fun (h : k = k') => h ▸ List.mem_cons_self
      · exact .inr (List.mem_cons_of_mem _ h)
    intro k hk
    cases e with
    | insertMany k' v n => exact ins k' v n k hk
    | insertSingle k' v => exact ins k' v 1 k hk
    | removeMany k' _ | removeSingle k' => exact (ih m k hk).imp_right (List.mem_cons_of_mem _)

theorem mem_keys_expand (M : MMap κ ν) : ∀ kv ∈ expand M, kv.1 ∈ M.map (·.1) := by
  intro kv h
  simp only [expand, List.mem_flatMap] at h
  obtain ⟨e, hin, hrep⟩ := h
  rw [(List.mem_replicate.mp hrep).2]
  exact List.mem_map_of_mem (f := (·.1)) hin

section
variable [DecidableEq ν]

theorem mem_of_mget (m : MMap κ ν) (x : κ) (v : ν) (c : Nat) (h : mget m x = some (v, c)) : (x, v, c) ∈ m :=
  Assoc.mem_of_lookup (mget_eq m x ▸ h)

theorem isInsert_insertMany (k : κ) (v : ν) (n : Nat) : isInsert (Change.insertMany k v n) = true := rfl
theorem isInsert_insertSingle (k : κ) (v : ν) : isInsert (Change.insertSingle k v) = true := rfl
theorem isInsert_removeMany (k : κ) (n : Nat) : isInsert (Change.removeMany k n : Change κ ν) = false := rfl
theorem isInsert_removeSingle (k : κ) : isInsert (Change.removeSingle k : Change κ ν) = false := rfl

theorem insVal_none_insTot (es : List (Change κ ν)) (x : κ) (h : insVal es x = none) : insTot es x = 0 := by
  fun_induction insVal es x <;> simp_all [insTot]

end

variable [DecidableEq ν]

theorem step_fresh (m : MMap κ ν) (kv : κ × ν) (h : Assoc.lookup m kv.1 = none) :
    stepKE m kv = Assoc.upsert (fun _ => (kv.2, 1)) m kv.1 ∧ stepKV m kv = Assoc.upsert (fun _ => (kv.2, 1)) m kv.1 := by
  simp only [stepKE, stepKV, mget_eq, h, mput_eq, and_self]

def coll (keyOnly : Bool) (l : List (κ × ν)) : MMap κ ν := if keyOnly then collectKeyEq l else collectKeyValueEq l

theorem coll_unique (b : Bool) (l : List (κ × ν)) (h : UniqueKeys l) : coll b l = ones l := by
  have fresh (m : MMap κ ν) (kv : κ × ν) (hk : kv.1 ∉ Assoc.keys m) :=
    Assoc.upsert_fresh (fun _ => (kv.2, 1)) hk ▸ step_fresh m kv ((Assoc.lookup_eq_none_iff m _).mpr hk)
  cases b
  · exact Assoc.foldl_fresh stepKV (fun kv => (kv.1, kv.2, 1)) (fun m kv hk => (fresh m kv hk).2) l [] h
  · exact Assoc.foldl_fresh stepKE (fun kv => (kv.1, kv.2, 1)) (fun m kv hk => (fresh m kv hk).1) l [] h

theorem collectKeyEq_unique (l : List (κ × ν)) (h : UniqueKeys l) : collectKeyEq l = ones l := coll_unique true l h

/-- the entries the loop emits for a key of `current` bound to `(v, cc)`, given its binding in `previous` -/
def headOf (k : κ) (v : ν) (cc : Nat) : Option (ν × Nat) → List (Change κ ν)
  | none => [mkChange k v cc .ins]
  | some (pv, pc) =>
    if pv = v then
      if cc > pc then [mkChange k v (cc - pc) .ins] else if cc < pc then [mkChange k v (pc - cc) .rem] else []
    else [mkChange k pv pc .rem, mkChange k v cc .ins]

theorem loop1_cons (k : κ) (v : ν) (cc : Nat) (cur prev : MMap κ ν) :
    loop1 ((k, v, cc) :: cur) prev =
      (headOf k v cc (Assoc.lookup prev k) ++ (loop1 cur (Assoc.erase prev k)).1, (loop1 cur (Assoc.erase prev k)).2.1,
       (loop1 cur (Assoc.erase prev k)).2.2 && (headOf k v cc (Assoc.lookup prev k)).all fun e => mkAssert (cnt e)) := by
  simp only [loop1, merase_eq]
  cases Assoc.lookup prev k with
  | none => simp only [headOf, List.cons_append, List.nil_append, List.all_cons, List.all_nil, Bool.and_true, cnt_mk]
  | some pvc =>
    by_cases h1 : pvc.1 = v
    · by_cases h2 : cc > pvc.2
      · simp only [headOf, h1, h2, if_true, List.cons_append, List.nil_append, List.all_cons, List.all_nil, Bool.and_true, cnt_mk]
      · by_cases h3 : cc < pvc.2
        · simp only [headOf, h1, h2, h3, if_true, if_false, List.cons_append, List.nil_append, List.all_cons, List.all_nil,
            Bool.and_true, cnt_mk]
        · simp only [headOf, h1, h2, h3, if_true, if_false, List.nil_append, List.all_nil, Bool.and_true]
    · simp only [headOf, h1, if_false, List.cons_append, List.nil_append, List.all_cons, List.all_nil, Bool.and_true, cnt_mk,
        Bool.and_assoc]

def restOf (m : MMap κ ν) : List (Change κ ν) := m.map fun (k, v, n) => mkChange k v n .rem

/-- the change list built when no replacement is chosen, from the collected maps `P`, `C` -/
def entriesOf (P C : MMap κ ν) : List (Change κ ν) := (loop1 C P).1 ++ restOf (loop1 C P).2.1

theorem entriesOf_cons (P C : MMap κ ν) (k : κ) (v : ν) (cc : Nat) :
    entriesOf P ((k, v, cc) :: C) = headOf k v cc (Assoc.lookup P k) ++ entriesOf (Assoc.erase P k) C := by
  simp only [entriesOf, loop1_cons, List.append_assoc]

/-- the entries that speak of key `x`, given its bindings in previous and current -/
def slice (x : κ) (p : Option (ν × Nat)) : Option (ν × Nat) → List (Change κ ν)
  | some (v, cc) => headOf x v cc p
  | none => match p with
    | some (pv, pc) => [mkChange x pv pc .rem]
    | none => []

theorem mem_slice (x : κ) (p c : Option (ν × Nat)) : ∀ e ∈ slice x p c, ∃ w n d, e = mkChange x w n d ∧
    ((∀ b, p = some b → 0 < b.2) → (∀ b, c = some b → 0 < b.2) → 0 < n) := by
  cases c with
  | none =>
    cases p with
    | none => exact fun _ h => nomatch h
    | some pvc => exact fun e he => ⟨_, _, _, List.mem_singleton.mp he, fun hp _ => hp _ rfl⟩
  | some vc =>
    cases p with
    | none => exact fun e he => ⟨_, _, _, List.mem_singleton.mp he, fun _ hc => hc _ rfl⟩
    | some pvc =>
      simp only [slice, headOf]
      by_cases h1 : pvc.1 = vc.1
      · by_cases h2 : vc.2 > pvc.2
        · rw [if_pos h1, if_pos h2]; exact fun e he => ⟨_, _, _, List.mem_singleton.mp he, fun _ _ => Nat.sub_pos_of_lt h2⟩
        · by_cases h3 : vc.2 < pvc.2
          · rw [if_pos h1, if_neg h2, if_pos h3]
            exact fun e he => ⟨_, _, _, List.mem_singleton.mp he, fun _ _ => Nat.sub_pos_of_lt h3⟩
          · rw [if_pos h1, if_neg h2, if_neg h3]; exact fun _ h => nomatch h
      · rw [if_neg h1]; exact List.forall_mem_cons.mpr ⟨⟨_, _, _, rfl, fun hp _ => hp _ rfl⟩,
          List.forall_mem_singleton.mpr ⟨_, _, _, rfl, fun _ hc => hc _ rfl⟩⟩

theorem filter_headOf (k : κ) (v : ν) (cc : Nat) (p : Option (ν × Nat)) (x : κ) :
    (headOf k v cc p).filter (keyOf · = x) = if k = x then headOf k v cc p else [] := by
  have key : ∀ e ∈ headOf k v cc p, keyOf e = k := fun e he => by
    obtain ⟨_, _, _, rfl, _⟩ := mem_slice k p (some (v, cc)) e he
    exact keyOf_mk ..
  split
  · rename_i h; exact List.filter_eq_self.mpr fun e he => by simp [key e he, h]
  · rename_i h; exact List.filter_eq_nil_iff.mpr fun e he => by simp [key e he, h]

theorem filter_restOf (m : MMap κ ν) (h : (Assoc.keys m).Nodup) (x : κ) :
    (restOf m).filter (keyOf · = x) = slice x (Assoc.lookup m x) none := by
  rw [restOf, List.filter_map, List.filter_congr (q := (·.1 = x)) fun e _ => by simp only [Function.comp, keyOf_mk],
    Assoc.filter_key h]
  cases Assoc.lookup m x <;> rfl

theorem filter_entriesOf (P C : MMap κ ν) (hP : (Assoc.keys P).Nodup) (hC : (Assoc.keys C).Nodup) (x : κ) :
    (entriesOf P C).filter (keyOf · = x) = slice x (Assoc.lookup P x) (Assoc.lookup C x) := by
  induction C generalizing P with
  | nil => exact filter_restOf P hP x
  | cons e C ih =>
    obtain ⟨k, v, cc⟩ := e
    rw [Assoc.keys, List.map_cons, List.nodup_cons] at hC
    rw [entriesOf_cons, List.filter_append, filter_headOf, ih _ (Assoc.nodup_update _ k hP) hC.2, Assoc.lookup]
    split
    · rename_i hk; subst hk
      rw [(Assoc.lookup_eq_none_iff C k).mpr hC.1, Assoc.lookup_update_self _ k hP]
      cases Assoc.lookup P k <;> exact List.append_nil _
    · rename_i hk
      rw [Assoc.lookup_update_ne _ P (Ne.symm hk)]; rfl

/-- what the comparison says about a key bound to `p` in previous and to `c` in current -/
def delta : Option (ν × Nat) → Option (ν × Nat) → Nat × Nat × Option ν
  | none, none => (0, 0, none)
  | some (_, pc), none => (pc, 0, none)
  | none, some (v, cc) => (0, cc, some v)
  | some (pv, pc), some (v, cc) =>
    if pv = v then (pc - cc, cc - pc, if pc < cc then some v else none) else (pc, cc, some v)

theorem obs_slice (x : κ) (p c : Option (ν × Nat)) : obs (slice x p c) x = delta p c := by
  cases c with
  | none => cases p <;> simp [slice, delta, obs, remTot_mk, insTot_mk, insVal_mk, remTot, insTot, insVal]
  | some vc =>
    cases p with
    | none => simp [slice, headOf, delta, obs, remTot_mk, insTot_mk, insVal_mk, remTot, insTot]
    | some pvc =>
      simp only [slice, headOf, delta, obs]
      by_cases h1 : pvc.1 = vc.1
      · by_cases h2 : vc.2 > pvc.2
        · simp [h1, h2, remTot_mk, insTot_mk, insVal_mk, remTot, insTot, Nat.le_of_lt h2]
        · by_cases h3 : vc.2 < pvc.2
          · simp [h1, h2, h3, remTot_mk, insTot_mk, insVal_mk, remTot, insTot, insVal, Nat.le_of_lt h3]
          · simp [h1, h2, h3, remTot, insTot, insVal, Nat.le_of_not_lt h2, Nat.le_of_not_lt h3]
      · simp [h1, remTot_mk, insTot_mk, insVal_mk, remTot, insTot]

theorem obs_entriesOf (P C : MMap κ ν) (hP : (Assoc.keys P).Nodup) (hC : (Assoc.keys C).Nodup) (x : κ) :
    obs (entriesOf P C) x = delta (Assoc.lookup P x) (Assoc.lookup C x) := by
  have hk : ∀ e : Change κ ν, keyOf e = x → decide (keyOf e = x) = true := fun _ => decide_eq_true
  rw [← obs_slice x, ← filter_entriesOf P C hP hC, obs, obs, remTot_filter _ _ x fun e _ => hk e,
    insTot_filter _ _ x fun e _ => hk e, insVal_filter _ _ x fun e _ => hk e]

theorem pos_entriesOf (P C : MMap κ ν) (hP : (Assoc.keys P).Nodup) (hC : (Assoc.keys C).Nodup) (pP : Pos P) (pC : Pos C) :
    ∀ e ∈ entriesOf P C, 0 < cnt e := by
  intro e he
  rw [← Assoc.mem_filter_key_iff keyOf, filter_entriesOf P C hP hC] at he
  obtain ⟨_, _, _, h, hn⟩ := mem_slice _ _ _ e he
  rw [h, cnt_mk]
  exact hn (fun _ h => pP _ (Assoc.mem_of_lookup h)) (fun _ h => pC _ (Assoc.mem_of_lookup h))

theorem asserts_eq_all (P C : MMap κ ν) :
    ((loop1 C P).2.2 && (loop1 C P).2.1.all fun (_, _, n) => mkAssert n) = (entriesOf P C).all fun e => mkAssert (cnt e) := by
  induction C generalizing P with
  | nil => simp only [entriesOf, restOf, loop1, Bool.true_and, List.nil_append, List.all_map, Function.comp_def, cnt_mk]
  | cons kc C ih =>
    rw [entriesOf_cons, List.all_append, ← ih, loop1_cons, Bool.and_right_comm, Bool.and_comm]

theorem applyKey_delta (p c : Option (ν × Nat)) (hp : ∀ b, p = some b → 0 < b.2) (hc : ∀ b, c = some b → 0 < b.2) :
    applyKey p (delta p c) = c := by
  cases c with
  | none => cases p <;> simp [applyKey, delta, sub]
  | some vc =>
    have hcc := hc _ rfl
    cases p with
    | none => rfl
    | some pvc =>
      have hpc := hp _ rfl
      by_cases h : pvc.1 = vc.1
      · simp only [applyKey, delta, if_pos h, Option.bind_some, sub]
        rw [if_pos (Nat.sub_lt hpc hcc)]
        simp only [h, Nat.sub_sub_eq_min, Nat.add_comm, Nat.min_comm, Nat.sub_add_min_cancel]
      · simp only [applyKey, delta, if_neg h, Option.bind_some, sub]
        rw [if_neg (Nat.lt_irrefl _)]; rfl

theorem apply_entriesOf (P C B : MMap κ ν) (hP : (Assoc.keys P).Nodup) (hC : (Assoc.keys C).Nodup) (pP : Pos P) (pC : Pos C)
    (hB : (Assoc.keys B).Nodup) (pB : Pos B) (hBP : ∀ x, Assoc.lookup B x = Assoc.lookup P x) :
    (Assoc.keys (applyMod B (entriesOf P C))).Nodup ∧
      ∀ x, Assoc.lookup (applyMod B (entriesOf P C)) x = Assoc.lookup C x := by
  obtain ⟨m1, m2⟩ := lookup_applyMod B (entriesOf P C) hB pB
  exact ⟨m1, fun x => by
    rw [m2, hBP, obs_entriesOf P C hP hC]
    exact applyKey_delta _ _ (fun _ h => pP _ (Assoc.mem_of_lookup h)) (fun _ h => pC _ (Assoc.mem_of_lookup h))⟩

theorem entriesOf_eq_nil (P C : MMap κ ν) (hP : (Assoc.keys P).Nodup) (hC : (Assoc.keys C).Nodup)
    (h : ∀ x, Assoc.lookup P x = Assoc.lookup C x) :
    entriesOf P C = [] :=
  List.eq_nil_iff_forall_not_mem.mpr fun e he => by
    rw [← Assoc.mem_filter_key_iff keyOf, filter_entriesOf P C hP hC, h] at he
    cases hl : Assoc.lookup C (keyOf e) with
    | none => rw [hl] at he; cases he
    | some vc => rw [hl] at he; simp [slice, headOf] at he

theorem hashcmpA_eq (prev cur : List (κ × ν)) (b : Bool) :
    hashcmpA prev cur b =
      if ((coll b cur).length : Int) < ((coll b prev).length : Int) - ((coll b cur).length : Int)
      then (some (.replace (expand (coll b cur))), true)
      else ((if (entriesOf (coll b prev) (coll b cur)).isEmpty then none else some (.modify (entriesOf (coll b prev) (coll b cur)))),
            (loop1 (coll b cur) (coll b prev)).2.2 && (loop1 (coll b cur) (coll b prev)).2.1.all fun (_, _, n) => mkAssert n) := by
  cases b <;> rfl

theorem hashcmp_eq_replace {prev cur r : List (κ × ν)} {b : Bool} (h : hashcmp prev cur b = some (.replace r)) :
    r = expand (coll b cur) ∧ ((coll b cur).length : Int) < ((coll b prev).length : Int) - ((coll b cur).length : Int) := by
  rw [hashcmp, hashcmpA_eq] at h
  split at h
  · exact ⟨by cases h; rfl, ‹_›⟩
  · cases (Option.ite_none_left_eq_some.mp h).2

theorem hashcmp_eq_modify {prev cur : List (κ × ν)} {b : Bool} {es : List (Change κ ν)}
    (h : hashcmp prev cur b = some (.modify es)) : es = entriesOf (coll b prev) (coll b cur) := by
  rw [hashcmp, hashcmpA_eq] at h
  split at h
  · cases h
  · cases (Option.ite_none_left_eq_some.mp h).2; rfl

theorem hashcmp_none_iff (prev cur : List (κ × ν)) (b : Bool) :
    hashcmp prev cur b = none ↔
      ¬ ((coll b cur).length : Int) < ((coll b prev).length : Int) - ((coll b cur).length : Int) ∧
      entriesOf (coll b prev) (coll b cur) = [] := by
  rw [hashcmp, hashcmpA_eq]
  split <;> simp [*]

theorem hashcmpA_snd (prev cur : List (κ × ν)) (hp : UniqueKeys prev) (hc : UniqueKeys cur) (b : Bool) :
    (hashcmpA prev cur b).2 = true := by
  rw [hashcmpA_eq, apply_ite Prod.snd, asserts_eq_all, coll_unique b _ hp, coll_unique b _ hc]
  exact ite_eq_left_iff.mpr fun _ => List.all_eq_true.mpr fun e he =>
    bne_iff_ne.mpr (Nat.ne_of_gt (pos_entriesOf _ _ (nodup_ones hp) (nodup_ones hc) (pos_ones _) (pos_ones _) e he))

end UMap
