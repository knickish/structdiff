/-!
The hash maps of the three unordered back ends (`UArr.CMap`, `UMap.MMap`, `RMap.KV`) are association lists: a key's
first pair is its binding.  Their `get` / `insert` / `get_mut` / `remove` are instances of `lookup`, `upsert`, `update`:
`upsert` (`get_mut`-or-`insert`) never drops a pair, so its lookup law needs no distinctness of keys; `update`
(a `get_mut` that may `remove`) uncovers a later pair of the same key when it drops one, so its law does.
-/
namespace Assoc
variable {κ β : Type} [DecidableEq κ]

def lookup : List (κ × β) → κ → Option β
  | [], _ => none
  | (k, b) :: t, x => if k = x then some b else lookup t x

def upsert (g : Option β → β) : List (κ × β) → κ → List (κ × β)
  | [], x => [(x, g none)]
  | (k, b) :: t, x => if k = x then (k, g (some b)) :: t else (k, b) :: upsert g t x

def update (f : β → Option β) : List (κ × β) → κ → List (κ × β)
  | [], _ => []
  | (k, b) :: t, x =>
    if k = x then (match f b with | some b' => (k, b') :: t | none => t) else (k, b) :: update f t x

abbrev erase (m : List (κ × β)) (x : κ) : List (κ × β) := update (fun _ => none) m x

abbrev keys (m : List (κ × β)) : List κ := m.map (·.1)

theorem lookup_eq_none_iff (m : List (κ × β)) (x : κ) : lookup m x = none ↔ x ∉ keys m := by
  induction m with
  | nil => exact iff_of_true rfl List.not_mem_nil
  | cons e t ih =>
    by_cases h : e.1 = x
    · exact iff_of_false (fun h' => Option.some_ne_none _ ((if_pos h).symm.trans h')) fun h' => h' (h ▸ List.mem_cons_self)
    · rw [lookup, if_neg h, ih]; exact (not_congr (List.mem_cons.trans (or_iff_right (Ne.symm h)))).symm

theorem lookup_isSome_iff (m : List (κ × β)) (x : κ) : (lookup m x).isSome ↔ x ∈ keys m :=
  Option.isSome_iff_ne_none.trans ((not_congr (lookup_eq_none_iff m x)).trans Decidable.not_not)

theorem mem_of_lookup {m : List (κ × β)} {x : κ} {b : β} (h : lookup m x = some b) : (x, b) ∈ m := by
  induction m with
  | nil => cases h
  | cons e t ih =>
    rw [lookup] at h
    split at h
    · cases h; subst x; exact List.mem_cons_self
    · exact List.mem_cons_of_mem _ (ih h)

theorem lookup_of_mem {m : List (κ × β)} (hm : (keys m).Nodup) {x : κ} {b : β} (h : (x, b) ∈ m) : lookup m x = some b := by
  induction m with
  | nil => cases h
  | cons e t ih =>
    rw [keys, List.map_cons, List.nodup_cons] at hm
    rcases List.mem_cons.mp h with rfl | h
    · simp [lookup]
    · have : e.1 ≠ x := fun e' => hm.1 (e' ▸ List.mem_map_of_mem (f := (·.1)) h)
      simp [lookup, this, ih hm.2 h]

theorem lookup_map {γ : Type} (f : κ → β → γ) (m : List (κ × β)) (x : κ) :
    lookup (m.map fun e => (e.1, f e.1 e.2)) x = (lookup m x).map (f x) := by
  induction m with
  | nil => rfl
  | cons e t ih =>
    simp only [List.map_cons, lookup, ih]
    split
    · rename_i h; rw [h]; rfl
    · rfl

theorem mem_filter_key_iff {ε : Type} (key : ε → κ) {l : List ε} {e : ε} : e ∈ l.filter (key · = key e) ↔ e ∈ l := by
  rw [List.mem_filter, decide_eq_true rfl]
  exact and_iff_left rfl

theorem filter_key {m : List (κ × β)} (h : (keys m).Nodup) (x : κ) :
    m.filter (·.1 = x) = ((lookup m x).map (x, ·)).toList := by
  induction m with
  | nil => rfl
  | cons e t ih =>
    rw [keys, List.map_cons, List.nodup_cons] at h
    rw [List.filter_cons, ih h.2, lookup]
    by_cases hx : e.1 = x
    · rw [if_pos (decide_eq_true hx), if_pos hx, (lookup_eq_none_iff t x).mpr (hx ▸ h.1), ← hx]; rfl
    · rw [if_neg (mt of_decide_eq_true hx), if_neg hx]

omit [DecidableEq κ] in
theorem length_eq_of_keys {γ : Type} {a : List (κ × β)} {b : List (κ × γ)} (ha : (keys a).Nodup) (hb : (keys b).Nodup)
    (h : ∀ k, k ∈ keys a ↔ k ∈ keys b) : a.length = b.length := by
  simpa using ((List.perm_ext_iff_of_nodup ha hb).mpr h).length_eq

theorem lookup_upsert (g : Option β → β) (m : List (κ × β)) (x y : κ) :
    lookup (upsert g m x) y = if y = x then some (g (lookup m x)) else lookup m y := by
  fun_induction upsert g m x <;> grind [lookup]

theorem keys_upsert (g : Option β → β) (m : List (κ × β)) (x : κ) :
    keys (upsert g m x) = if x ∈ keys m then keys m else keys m ++ [x] := by
  induction m with
  | nil => rfl
  | cons e t ih =>
    rw [upsert]
    by_cases hx : e.1 = x
    · simp only [keys, List.map_cons, hx, List.mem_cons, true_or, if_true]
    · simp only [keys, List.map_cons, List.mem_cons, hx, Ne.symm hx, false_or, if_false, List.cons_append] at ih ⊢
      rw [ih]; exact apply_ite (e.1 :: ·) ..

theorem mem_keys_upsert {g : Option β → β} {m : List (κ × β)} {x k : κ} (h : k ∈ keys (upsert g m x)) :
    k ∈ keys m ∨ k = x := by
  rw [keys_upsert] at h
  split at h
  · exact .inl h
  · exact (List.mem_append.mp h).imp_right List.mem_singleton.mp

theorem upsert_fresh (g : Option β → β) {m : List (κ × β)} {x : κ} (h : x ∉ keys m) :
    upsert g m x = m ++ [(x, g none)] := by
  induction m with
  | nil => rfl
  | cons e t ih =>
    rw [keys, List.map_cons, List.mem_cons, not_or] at h
    rw [upsert, if_neg (Ne.symm h.1), ih h.2, List.cons_append]

omit [DecidableEq κ] in
/-- a fold whose step appends a pair when its key is new: over new, distinct keys it appends the whole list -/
theorem foldl_fresh {α : Type} (step : List (κ × β) → α → List (κ × β)) (f : α → κ × β)
    (hstep : ∀ m a, (f a).1 ∉ keys m → step m a = m ++ [f a]) (l : List α) (m : List (κ × β))
    (h : (keys m ++ l.map fun a => (f a).1).Nodup) : l.foldl step m = m ++ l.map f := by
  induction l generalizing m with
  | nil => exact (List.append_nil m).symm
  | cons a t ih =>
    rw [List.foldl_cons, hstep m a fun hk => (List.nodup_append.mp h).2.2 _ hk _ List.mem_cons_self rfl, ih, List.append_assoc]
    · rfl
    · rw [keys, List.map_append, List.append_assoc]; exact h

theorem nodup_upsert (g : Option β → β) {m : List (κ × β)} (x : κ) (h : (keys m).Nodup) : (keys (upsert g m x)).Nodup := by
  rw [keys_upsert]
  split
  · exact h
  · exact List.perm_append_comm.nodup_iff.mpr (List.nodup_cons.mpr ⟨‹_›, h⟩)

theorem mem_upsert {g : Option β → β} {m : List (κ × β)} {x : κ} {e : κ × β} (h : e ∈ upsert g m x) :
    e ∈ m ∨ e = (x, g (lookup m x)) := by
  induction m with
  | nil => simpa [upsert, lookup] using h
  | cons a t ih =>
    rw [upsert] at h
    split at h
    · rename_i hk
      rcases List.mem_cons.mp h with rfl | h
      · simp [lookup, hk]
      · exact .inl (List.mem_cons_of_mem _ h)
    · rename_i hk
      rcases List.mem_cons.mp h with rfl | h
      · exact .inl List.mem_cons_self
      · simpa [lookup, hk, or_assoc] using Or.inr (ih h)

theorem keys_update_sublist (f : β → Option β) (m : List (κ × β)) (x : κ) : (keys (update f m x)).Sublist (keys m) := by
  induction m with
  | nil => exact .slnil
  | cons e t ih =>
    rw [update]
    split
    · split
      · exact List.Sublist.refl _
      · exact List.sublist_cons_self _ _
    · exact ih.cons_cons _

theorem nodup_update (f : β → Option β) {m : List (κ × β)} (x : κ) (h : (keys m).Nodup) : (keys (update f m x)).Nodup :=
  h.sublist (keys_update_sublist f m x)

theorem lookup_update_ne (f : β → Option β) (m : List (κ × β)) {x y : κ} (hy : y ≠ x) :
    lookup (update f m x) y = lookup m y := by
  induction m with
  | nil => rfl
  | cons e t ih =>
    rw [update]
    split
    · rename_i hx
      have : e.1 ≠ y := fun h => hy (h ▸ hx)
      split <;> simp only [lookup, if_neg this]
    · simp only [lookup, ih]

theorem lookup_update_self (f : β → Option β) {m : List (κ × β)} (x : κ) (h : (keys m).Nodup) :
    lookup (update f m x) x = (lookup m x).bind f := by
  induction m with
  | nil => rfl
  | cons e t ih =>
    rw [keys, List.map_cons, List.nodup_cons] at h
    rw [update, lookup]
    split
    · rename_i hx
      have hn := (lookup_eq_none_iff t x).mpr (hx ▸ h.1)
      split <;> simp only [lookup, if_true, Option.bind_some, *]
    · rename_i hx
      simp only [lookup, if_neg hx, ih h.2]

theorem lookup_update (f : β → Option β) {m : List (κ × β)} (x y : κ) (h : (keys m).Nodup) :
    lookup (update f m x) y = if y = x then (lookup m x).bind f else lookup m y := by
  split
  · rename_i hy; rw [hy, lookup_update_self f x h]
  · exact lookup_update_ne f m ‹_›

theorem erase_eq_filter {m : List (κ × β)} (h : (keys m).Nodup) (x : κ) :
    erase m x = m.filter fun e => !decide (e.1 = x) := by
  induction m with
  | nil => rfl
  | cons e t ih =>
    rw [keys, List.map_cons, List.nodup_cons] at h
    rw [erase, update, List.filter_cons]
    split
    · rename_i hx
      have : ∀ a ∈ t, (!decide (a.1 = x)) = true := fun a ha => by
        rw [Bool.not_eq_true', decide_eq_false_iff_not]
        exact fun e' => h.1 (hx ▸ e' ▸ List.mem_map_of_mem (f := (·.1)) ha)
      simp only [hx, decide_true, Bool.not_true, Bool.false_eq_true, if_false, List.filter_eq_self.mpr this]
    · rename_i hx
      simp only [hx, decide_false, Bool.not_false, if_true]; exact congrArg _ (ih h.2)

theorem mem_update {f : β → Option β} {m : List (κ × β)} {x : κ} {e : κ × β} (h : e ∈ update f m x) :
    e ∈ m ∨ ∃ b, (x, b) ∈ m ∧ f b = some e.2 := by
  induction m with
  | nil => cases h
  | cons a t ih =>
    rw [update] at h
    split at h
    · rename_i hk
      split at h
      · rename_i b' hb
        rcases List.mem_cons.mp h with rfl | h
        · exact .inr ⟨a.2, by simp [← hk], hb⟩
        · exact .inl (List.mem_cons_of_mem _ h)
      · exact .inl (List.mem_cons_of_mem _ h)
    · rcases List.mem_cons.mp h with rfl | h
      · exact .inl List.mem_cons_self
      · rcases ih h with h | ⟨b, hb, hf⟩
        · exact .inl (List.mem_cons_of_mem _ h)
        · exact .inr ⟨b, List.mem_cons_of_mem _ hb, hf⟩

end Assoc
