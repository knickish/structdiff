import SdModel.Model.Slots
import Batteries.Data.List.Perm

/-!
Lemmas for C10: the slot array of `Model/Slots.lean` refines a bounded sequence.  Every operation is proved on `getL`
alone (one equation per primitive, rewritten against the `List.getElem?_…` lemma of the list operation); `Inv` comes
back by counting occupied cells (`Inv.of_refines`).
-/
namespace Slots
variable {α : Type}

/-- invariant: capacity, and every logical index below `cnt` occurs exactly once, none above -/
def Inv (N : Nat) (s : AM α) : Prop :=
  s.cells.length = N ∧ N ≤ 255 ∧ ∀ i, (idxs s.cells).count i = if i < s.cnt then 1 else 0

def Refines (s : AM α) (l : List α) : Prop :=
  s.cnt = l.length ∧ ∀ i, getL s.cells i = l[i]?

@[simp] theorem idxs_nil : idxs ([] : List (Cell α)) = [] := rfl
@[simp] theorem idxs_none (t : List (Cell α)) : idxs (none :: t) = idxs t := rfl
@[simp] theorem idxs_some (j : Nat) (v : α) (t : List (Cell α)) : idxs (some (j, v) :: t) = j :: idxs t := rfl

@[simp] theorem getL_nil (i : Nat) : getL ([] : List (Cell α)) i = none := rfl
@[simp] theorem getL_none (t : List (Cell α)) (i : Nat) : getL (none :: t) i = getL t i := rfl
theorem getL_some (j : Nat) (v : α) (t : List (Cell α)) (i : Nat) :
    getL (some (j, v) :: t) i = if j = i then some v else getL t i := by
  by_cases h : j = i <;> simp only [getL, List.findSome?_cons, pick, h, if_true, if_false]

theorem mem_idxs {cs : List (Cell α)} {i : Nat} : i ∈ idxs cs ↔ ∃ v, some (i, v) ∈ cs := by
  simp only [idxs, List.mem_filterMap]
  constructor
  · rintro ⟨_ | ⟨j, v⟩, hc, e⟩
    · cases e
    · cases e; exact ⟨v, hc⟩
  · rintro ⟨v, hc⟩; exact ⟨_, hc, rfl⟩

theorem pick_eq_some {i : Nat} {c : Cell α} {v : α} : pick i c = some v ↔ c = some (i, v) := by
  rcases c with _ | ⟨j, w⟩
  · simp [pick]
  · simp only [pick, Option.ite_none_right_eq_some, Option.some.injEq, Prod.mk.injEq]

theorem getL_isSome_iff (cs : List (Cell α)) (i : Nat) : (getL cs i).isSome ↔ i ∈ idxs cs := by
  rw [getL, List.findSome?_isSome_iff, mem_idxs]
  simp only [Option.isSome_iff_exists, pick_eq_some]
  constructor
  · rintro ⟨_, hc, v, rfl⟩; exact ⟨v, hc⟩
  · rintro ⟨v, hc⟩; exact ⟨_, hc, v, rfl⟩

theorem getL_eq_none {cs : List (Cell α)} {i : Nat} (h : i ∉ idxs cs) : getL cs i = none := by
  simpa [← getL_isSome_iff] using h

theorem mem_of_getL {cs : List (Cell α)} {i : Nat} {v : α} (h : getL cs i = some v) : some (i, v) ∈ cs := by
  obtain ⟨c, hc, hp⟩ := List.exists_of_findSome?_eq_some h
  rwa [pick_eq_some.mp hp] at hc

/-- with distinct indices the first match is the only one -/
theorem getL_of_mem {cs : List (Cell α)} {i : Nat} {v : α} (hnd : (idxs cs).Nodup) (h : some (i, v) ∈ cs) :
    getL cs i = some v := by
  induction cs with
  | nil => cases h
  | cons c t ih =>
    rcases c with _ | ⟨j, w⟩
    · exact ih hnd ((List.mem_cons.mp h).resolve_left nofun)
    · rw [idxs_some, List.nodup_cons] at hnd
      rw [getL_some]
      rcases List.mem_cons.mp h with e | h
      · cases e; exact if_pos rfl
      · rw [if_neg (fun e : j = i => hnd.1 (e ▸ mem_idxs.mpr ⟨v, h⟩)), ih hnd.2 h]

theorem idxs_length (cs : List (Cell α)) : (idxs cs).length = cs.countP (·.isSome) := by
  simp [idxs, List.length_filterMap_eq_countP]

theorem idxs_length_le (cs : List (Cell α)) : (idxs cs).length ≤ cs.length :=
  List.length_filterMap_le _ _

theorem idxs_length_map {f : Cell α → Cell α} (hf : ∀ c, (f c).isSome = c.isSome) (cs : List (Cell α)) :
    (idxs (cs.map f)).length = (idxs cs).length := by
  rw [idxs_length, idxs_length, List.countP_map]
  exact congrArg (List.countP · cs) (funext hf)

theorem hasFree_iff (cs : List (Cell α)) : hasFree cs = true ↔ (idxs cs).length < cs.length := by
  induction cs with
  | nil => simp [hasFree]
  | cons c t ih =>
    rcases c with _ | ⟨j, v⟩
    · simpa [hasFree] using Nat.lt_succ_of_le (idxs_length_le t)
    · simp [hasFree, ih]

theorem u8_of_lt {p : Nat} (h : p < 256) : u8 p = p := Nat.mod_eq_of_lt h

theorem filterMap_getElem?_range' (l : List α) (lo n : Nat) :
    (List.range' lo n).filterMap (fun i => l[i]?) = (l.drop lo).take n := by
  induction n generalizing lo with
  | zero => rfl
  | succ n ih =>
    rw [List.range'_succ, List.filterMap_cons, ih]
    rcases Nat.lt_or_ge lo l.length with h | h
    · rw [List.getElem?_eq_getElem h, List.drop_eq_getElem_cons h, List.take_succ_cons]
    · rw [List.getElem?_eq_none h, List.drop_eq_nil_of_le h, List.drop_eq_nil_of_le (Nat.le_succ_of_le h),
        List.take_nil, List.take_nil]

theorem getElem?_take_append_drop (l : List α) (lo n i : Nat) :
    (l.take lo ++ l.drop (lo + n))[i]? = if i < lo then l[i]? else l[i + n]? := by
  rcases Nat.le_total lo l.length with hl | hl
  · rw [List.getElem?_append, List.length_take_of_le hl]
    split
    · exact List.getElem?_take_of_lt ‹_›
    · rw [List.getElem?_drop, Nat.add_right_comm, Nat.add_sub_cancel' (Nat.le_of_not_lt ‹_›)]
  · rw [List.take_of_length_le hl, List.drop_eq_nil_of_le (Nat.le_add_right_of_le hl), List.append_nil]
    split
    · rfl
    · have := Nat.le_trans hl (Nat.le_of_not_lt ‹_›)
      rw [List.getElem?_eq_none this, List.getElem?_eq_none (Nat.le_add_right_of_le this)]

theorem nodup_of_nodupNat {l : List Nat} (h : nodupNat l = true) : l.Nodup := by
  induction l with
  | nil => exact List.nodup_nil
  | cons x t ih =>
    simp only [nodupNat, Bool.and_eq_true, Bool.not_eq_true', List.contains_eq_mem, decide_eq_false_iff_not] at h
    exact List.nodup_cons.mpr ⟨h.1, ih h.2⟩

theorem getL_map {f : Cell α → Cell α} {cs : List (Cell α)} {i k : Nat} (h : ∀ c ∈ cs, pick i (f c) = pick k c) :
    getL (cs.map f) i = getL cs k := by
  induction cs with
  | nil => rfl
  | cons c t ih =>
    simp only [getL, List.map_cons, List.findSome?_cons] at ih ⊢
    rw [h c (List.mem_cons_self ..), ih fun c hc => h c (List.mem_cons_of_mem _ hc)]

/-- pigeonhole: the indices below `cnt` all occur, so `cnt` occupied cells leave no room for another index or for one
of them twice -/
theorem Inv.of_refines {N : Nat} {s : AM α} {l : List α} (hlen : s.cells.length = N) (hN : N ≤ 255)
    (hocc : (idxs s.cells).length = s.cnt) (hR : Refines s l) : Inv N s := by
  refine ⟨hlen, hN, fun i => ?_⟩
  have hsub : List.range s.cnt ⊆ idxs s.cells := by
    intro j hj
    rw [← getL_isSome_iff, hR.2, isSome_getElem?, ← hR.1]
    exact List.mem_range.mp hj
  have hp := (List.subperm_of_subset List.nodup_range hsub).perm_of_length_le
    (Nat.le_of_eq (hocc.trans List.length_range.symm))
  rw [← hp.count_eq, List.count_range]

theorem Inv.length_cells {N : Nat} {s : AM α} (h : Inv N s) : s.cells.length = N := h.1
theorem Inv.cap_le {N : Nat} {s : AM α} (h : Inv N s) : N ≤ 255 := h.2.1

theorem Inv.perm {N : Nat} {s : AM α} (h : Inv N s) : (idxs s.cells).Perm (List.range s.cnt) := by
  rw [List.perm_iff_count]
  intro a
  rw [h.2.2 a, List.count_range]

theorem Inv.nodup {N : Nat} {s : AM α} (h : Inv N s) : (idxs s.cells).Nodup :=
  h.perm.nodup_iff.mpr List.nodup_range

theorem Inv.mem_idxs {N : Nat} {s : AM α} (h : Inv N s) {i : Nat} : i ∈ idxs s.cells ↔ i < s.cnt := by
  rw [h.perm.mem_iff, List.mem_range]

theorem Inv.idxs_length {N : Nat} {s : AM α} (h : Inv N s) : (idxs s.cells).length = s.cnt :=
  h.perm.length_eq.trans List.length_range

theorem Inv.cnt_le {N : Nat} {s : AM α} (h : Inv N s) : s.cnt ≤ N :=
  h.idxs_length ▸ h.length_cells ▸ idxs_length_le s.cells

/-- positions up to `cnt` survive the `as u8` casts of the code -/
theorem Inv.u8 {N : Nat} {s : AM α} (h : Inv N s) {p : Nat} (hp : p ≤ s.cnt) : u8 p = p :=
  u8_of_lt (Nat.lt_succ_of_le (Nat.le_trans hp (Nat.le_trans h.cnt_le h.cap_le)))

theorem Inv.hasFree_iff {N : Nat} {s : AM α} (h : Inv N s) : hasFree s.cells = true ↔ s.cnt < N := by
  rw [Slots.hasFree_iff, h.idxs_length, h.length_cells]

theorem Inv.getL_of_cnt_le {N : Nat} {s : AM α} (h : Inv N s) (i : Nat) (hi : s.cnt ≤ i) : getL s.cells i = none :=
  getL_eq_none (mt h.mem_idxs.mp (Nat.not_lt.mpr hi))

theorem Inv.exists_getL {N : Nat} {s : AM α} (h : Inv N s) (i : Nat) (hi : i < s.cnt) : ∃ v, getL s.cells i = some v :=
  Option.isSome_iff_exists.mp ((getL_isSome_iff s.cells i).mpr (h.mem_idxs.mpr hi))

theorem Inv.exists_refines {N : Nat} {s : AM α} (h : Inv N s) : ∃ l, Refines s l := by
  refine ⟨List.ofFn fun i : Fin s.cnt => (getL s.cells i).get ((getL_isSome_iff ..).mpr (h.mem_idxs.mpr i.2)),
    List.length_ofFn.symm, fun i => ?_⟩
  rw [List.getElem?_ofFn]
  split
  · exact (Option.some_get _).symm
  · exact h.getL_of_cnt_le i (Nat.le_of_not_lt ‹_›)

theorem abs_of_refines {s : AM α} {l : List α} (h : Refines s l) : abs s = l := by
  rw [abs, h.1, show getL s.cells = fun i => l[i]? from funext h.2, List.range_eq_range',
    filterMap_getElem?_range', List.drop_zero, List.take_length]

theorem Inv.refines_abs {N : Nat} {s : AM α} (h : Inv N s) : Refines s (abs s) := by
  obtain ⟨l, hR⟩ := h.exists_refines
  rwa [abs_of_refines hR]

theorem pick_bump (p i : Nat) (c : Cell α) :
    pick i (bump p c) = if i < p then pick i c else if i = p then none else pick (i-1) c := by
  rcases c with _ | ⟨j, v⟩
  · simp only [bump, pick, ite_self]
  · rw [bump, apply_ite (pick i)]
    grind [pick]

theorem getL_map_bump (p i : Nat) (cs : List (Cell α)) :
    getL (cs.map (bump p)) i = if i < p then getL cs i else if i = p then none else getL cs (i-1) := by
  rw [getL, List.findSome?_map]
  simp only [Function.comp_def, pick_bump]
  split
  · rfl
  · split
    · exact List.findSome?_eq_none_iff.mpr fun _ _ => rfl
    · rfl

theorem map_bump_of_lt (p : Nat) (cs : List (Cell α)) (h : ∀ j ∈ idxs cs, j < p) : cs.map (bump p) = cs := by
  refine (List.map_congr_left fun c hc => ?_).trans (List.map_id cs)
  rcases c with _ | ⟨j, v⟩
  · rfl
  · exact if_neg (Nat.not_le.mpr (h j (mem_idxs.mpr ⟨v, hc⟩)))

theorem getL_put (x : Nat × α) (i : Nat) (cs : List (Cell α)) (hfree : hasFree cs = true)
    (hno : getL cs x.1 = none) :
    getL (putFirstEmpty x cs) i = if i = x.1 then some x.2 else getL cs i := by
  induction cs with
  | nil => cases hfree
  | cons c t ih =>
    rcases c with _ | ⟨j, w⟩
    · obtain ⟨k, v⟩ := x
      rw [putFirstEmpty, getL_some, getL_none]
      simp only [eq_comm]
    · rw [getL_some] at hno
      split at hno
      · cases hno
      · rename_i hj
        rw [putFirstEmpty, getL_some, getL_some, ih hfree hno]
        by_cases h : j = i
        · rw [if_pos h, if_pos h, if_neg (h ▸ hj)]
        · rw [if_neg h, if_neg h]

@[simp] theorem isSome_bump (p : Nat) (c : Cell α) : (bump p c).isSome = c.isSome := by
  rcases c with _ | ⟨j, v⟩
  · rfl
  · exact (apply_ite Option.isSome ..).trans (ite_self _)

@[simp] theorem length_put (x : Nat × α) (cs : List (Cell α)) : (putFirstEmpty x cs).length = cs.length := by
  induction cs with
  | nil => rfl
  | cons c t ih =>
    cases c
    · rfl
    · exact congrArg Nat.succ ih

theorem idxs_length_put (x : Nat × α) (cs : List (Cell α)) (hfree : hasFree cs = true) :
    (idxs (putFirstEmpty x cs)).length = (idxs cs).length + 1 := by
  induction cs with
  | nil => cases hfree
  | cons c t ih =>
    rcases c with _ | ⟨j, w⟩
    · rfl
    · exact congrArg Nat.succ (ih hfree)

theorem insert_refines {N : Nat} {s : AM α} {l : List α} (hI : Inv N s) (hR : Refines s l)
    (p : Nat) (v : α) (hp : p ≤ s.cnt) (hc : s.cnt < N) :
    ∃ s', insert s p v = .ok s' ∧ Inv N s' ∧ Refines s' (l.insertIdx p v) := by
  have hocc : (idxs (s.cells.map (bump p))).length = s.cnt := (idxs_length_map (isSome_bump p) _).trans hI.idxs_length
  have hfree : hasFree (s.cells.map (bump p)) = true := by
    rw [hasFree_iff, hocc, List.length_map, hI.length_cells]; exact hc
  have hpN : p < s.cells.length := hI.length_cells ▸ Nat.lt_of_le_of_lt hp hc
  have hu := hI.u8 hp
  have hpl : p ≤ l.length := hR.1 ▸ hp
  have hR' : Refines ⟨putFirstEmpty (p, v) (s.cells.map (bump p)), s.cnt + 1⟩ (l.insertIdx p v) := by
    refine ⟨by rw [List.length_insertIdx_of_le_length hpl, hR.1], fun i => ?_⟩
    have hno : getL (s.cells.map (bump p)) p = none := by rw [getL_map_bump]; simp
    show getL (putFirstEmpty (p, v) _) i = _
    rw [getL_put (p, v) i _ hfree hno, getL_map_bump, List.getElem?_insertIdx, hR.2, hR.2]
    grind
  refine ⟨_, by simp [insert, hpN, hI.hasFree_iff.mpr hc, hu], ?_, hR'⟩
  exact .of_refines (by simp [hI.length_cells]) hI.cap_le (by rw [idxs_length_put _ _ hfree, hocc]) hR'

theorem lower_eq_lowerBy (p : Nat) : (lower p : Cell α → Cell α) = lowerBy p 1 := by
  funext c; rcases c with _ | ⟨j, v⟩ <;> rfl

@[simp] theorem isSome_lowerBy (mx n : Nat) (c : Cell α) : (lowerBy mx n c).isSome = c.isSome := by
  rcases c with _ | ⟨j, v⟩
  · rfl
  · exact (apply_ite Option.isSome ..).trans (ite_self _)

theorem pick_lowerBy {mx n lo : Nat} (hmx : mx + 1 = lo + n) (i : Nat) (c : Cell α)
    (hc : ∀ j v, c = some (j, v) → ¬ (lo ≤ j ∧ j < lo + n)) :
    pick i (lowerBy mx n c) = if i < lo then pick i c else pick (i + n) c := by
  rcases c with _ | ⟨j, v⟩
  · exact (ite_self _).symm
  · have := hc j v rfl
    rw [lowerBy, apply_ite (pick i)]
    grind [pick]

/-- `cs'` is `cs` with the window `[lo, lo + n)` emptied and `mx` its last index: the step `remove` (`n = 1`) and
`drain` share -/
theorem getL_map_lowerBy {mx n lo : Nat} (hmx : mx + 1 = lo + n) {cs cs' : List (Cell α)}
    (hclear : ∀ i, getL cs' i = if lo ≤ i ∧ i < lo + n then none else getL cs i) (i : Nat) :
    getL (cs'.map (lowerBy mx n)) i = if i < lo then getL cs i else getL cs (i + n) := by
  have hp : ∀ c ∈ cs', pick i (lowerBy mx n c) = if i < lo then pick i c else pick (i + n) c := by
    intro c hm
    refine pick_lowerBy hmx i c fun j v e h => ?_
    have hj := (getL_isSome_iff cs' j).mpr (mem_idxs.mpr ⟨v, e ▸ hm⟩)
    rw [hclear, if_pos h] at hj
    cases hj
  by_cases hi : i < lo
  · rw [if_pos hi, getL_map fun c hm => by rw [hp c hm, if_pos hi], hclear, if_neg fun h => Nat.not_le.mpr hi h.1]
  · rw [if_neg hi, getL_map fun c hm => by rw [hp c hm, if_neg hi], hclear,
      if_neg fun h => hi (Nat.lt_of_add_lt_add_right h.2)]

theorem takeFirst_spec (i : Nat) (cs : List (Cell α)) (v : α) (h : getL cs i = some v) (hnd : (idxs cs).Nodup) :
    ∃ cs', takeFirst i cs = some (v, cs') ∧ cs'.length = cs.length ∧ (idxs cs').length + 1 = (idxs cs).length ∧
      ∀ k, getL cs' k = if k = i then none else getL cs k := by
  induction cs with
  | nil => cases h
  | cons c t ih =>
    rcases c with _ | ⟨j, w⟩
    · obtain ⟨cs', e, hl, ho, hg⟩ := ih h hnd
      exact ⟨none :: cs', by simp [takeFirst, e], congrArg Nat.succ hl, ho, hg⟩
    · rw [idxs_some, List.nodup_cons] at hnd
      rw [getL_some] at h
      by_cases hj : j = i
      · rw [if_pos hj, Option.some.injEq] at h
        subst hj h
        refine ⟨none :: t, if_pos rfl, rfl, rfl, fun k => ?_⟩
        rw [getL_none, getL_some]
        by_cases hk : k = j
        · rw [if_pos hk, hk, getL_eq_none hnd.1]
        · rw [if_neg hk, if_neg (Ne.symm hk)]
      · rw [if_neg hj] at h
        obtain ⟨cs', e, hl, ho, hg⟩ := ih h hnd.2
        refine ⟨some (j, w) :: cs', by simp [takeFirst, hj, e], congrArg Nat.succ hl, congrArg (· + 1) ho, fun k => ?_⟩
        rw [getL_some, getL_some, hg]
        by_cases hk : k = i
        · rw [if_pos hk, if_pos hk, if_neg (hk ▸ hj)]
        · rw [if_neg hk, if_neg hk]

theorem remove_refines {N : Nat} {s : AM α} {l : List α} (hI : Inv N s) (hR : Refines s l)
    (p : Nat) (hp : p < s.cnt) :
    ∃ x s', remove s p = .ok (x, s') ∧ l[p]? = some x ∧ Inv N s' ∧ Refines s' (l.eraseIdx p) := by
  have hu := hI.u8 (Nat.le_of_lt hp)
  obtain ⟨x, hx⟩ := hI.exists_getL p hp
  obtain ⟨cs', e, hl, ho, hg⟩ := takeFirst_spec p s.cells x hx hI.nodup
  have hpl : p < l.length := hR.1 ▸ hp
  have hR' : Refines ⟨cs'.map (lower p), s.cnt - 1⟩ (l.eraseIdx p) := by
    refine ⟨by rw [List.length_eraseIdx_of_lt hpl, hR.1], fun i => ?_⟩
    have hclear : ∀ k, getL cs' k = if p ≤ k ∧ k < p + 1 then none else getL s.cells k := fun k => by
      rw [hg]; exact ite_cond_congr (propext (by omega))
    show getL (cs'.map (lower p)) i = _
    rw [lower_eq_lowerBy, getL_map_lowerBy rfl hclear, hR.2, hR.2, List.getElem?_eraseIdx]
  refine ⟨x, _, by simp [remove, hu, e], by rw [← hR.2, hx], ?_, hR'⟩
  refine .of_refines (by simp [hl, hI.length_cells]) hI.cap_le ?_ hR'
  rw [lower_eq_lowerBy, idxs_length_map (isSome_lowerBy p 1), ← hI.idxs_length, ← ho]
  rfl

theorem index_ok {s : AM α} {l : List α} (hR : Refines s l) (i : Nat) (hi : i < l.length) :
    index s i = .ok l[i] := by
  simp only [index, hR.2, List.getElem?_eq_getElem hi]

theorem index_panics {s : AM α} {l : List α} (hR : Refines s l) (i : Nat) (hi : l.length ≤ i) :
    ∃ e, index s i = .error e := by
  simp only [index, hR.2, List.getElem?_eq_none hi]
  exact ⟨_, rfl⟩

theorem setL_spec (cs : List (Cell α)) (i : Nat) (v : α) (h : (getL cs i).isSome) :
    ∃ cs', setL cs i v = some cs' ∧ cs'.length = cs.length ∧ idxs cs' = idxs cs ∧
      ∀ k, getL cs' k = if k = i then some v else getL cs k := by
  induction cs with
  | nil => cases h
  | cons c t ih =>
    rcases c with _ | ⟨j, w⟩
    · obtain ⟨t', e, a, b, c⟩ := ih h
      exact ⟨none :: t', by simp [setL, e], congrArg Nat.succ a, b, c⟩
    · by_cases hj : j = i
      · refine ⟨some (j, v) :: t, if_pos hj, rfl, rfl, fun k => ?_⟩
        rw [getL_some, getL_some]; grind
      · rw [getL_some, if_neg hj] at h
        obtain ⟨t', e, a, b, c⟩ := ih h
        refine ⟨some (j, w) :: t', by simp [setL, hj, e], congrArg Nat.succ a, by simp [b], fun k => ?_⟩
        rw [getL_some, getL_some, c]; grind

theorem set_refines {N : Nat} {s : AM α} {l : List α} (hI : Inv N s) (hR : Refines s l)
    (i : Nat) (v : α) (hi : i < s.cnt) :
    ∃ s', set s i v = .ok s' ∧ Inv N s' ∧ Refines s' (l.set i v) := by
  obtain ⟨cs', e, a, b, c⟩ := setL_spec s.cells i v ((getL_isSome_iff _ _).mpr (hI.mem_idxs.mpr hi))
  have hR' : Refines ⟨cs', s.cnt⟩ (l.set i v) := by
    refine ⟨hR.1.trans List.length_set.symm, fun k => ?_⟩
    show getL cs' k = _
    rw [c, List.getElem?_set, hR.2]
    have : i < l.length := hR.1 ▸ hi
    grind
  exact ⟨_, by simp [set, e], .of_refines (a.trans hI.length_cells) hI.cap_le (b ▸ hI.idxs_length) hR', hR'⟩

theorem fillFree_nil (cs : List (Cell α)) (k : Nat) : fillFree cs [] k = (cs, k) := by
  cases cs <;> rfl

theorem fillFree_cons (cs : List (Cell α)) (v : α) (vs : List α) (k : Nat) (h : hasFree cs = true) :
    fillFree cs (v :: vs) k = fillFree (putFirstEmpty (u8 k, v) cs) vs (k + 1) := by
  induction cs with
  | nil => cases h
  | cons c t ih =>
    rcases c with _ | x
    · cases vs <;> simp only [fillFree, putFirstEmpty, fillFree_nil]
    · cases vs <;> simp only [fillFree, putFirstEmpty, fillFree_nil, ih h]

theorem fillFree_full (cs : List (Cell α)) (vs : List α) (k : Nat) (h : hasFree cs = false) :
    fillFree cs vs k = (cs, k) := by
  induction cs with
  | nil => rfl
  | cons c t ih =>
    rcases c with _ | x
    · cases h
    · cases vs
      · rfl
      · simp only [fillFree, ih h]

theorem extend_refines_take {N : Nat} {s : AM α} {l : List α} (hI : Inv N s) (hR : Refines s l) (vs : List α) :
    Inv N (extend s vs) ∧ Refines (extend s vs) (l ++ vs.take (N - s.cnt)) := by
  induction vs generalizing s l with
  | nil =>
    have : extend s [] = s := by simp only [extend, fillFree_nil]
    rw [this, List.take_nil, List.append_nil]; exact ⟨hI, hR⟩
  | cons v vs ih =>
    by_cases hc : s.cnt < N
    · -- one value goes in as `insert` at position `cnt` does it
      obtain ⟨s', e, hI', hR'⟩ := insert_refines hI hR s.cnt v (Nat.le_refl _) hc
      have hfree := hI.hasFree_iff.mpr hc
      have hs' : s' = ⟨putFirstEmpty (u8 s.cnt, v) s.cells, s.cnt + 1⟩ := by
        have hlt : s.cnt < s.cells.length := hI.length_cells ▸ hc
        simp only [insert, hlt, hfree, map_bump_of_lt s.cnt s.cells fun _ => hI.mem_idxs.mp] at e
        simpa using e.symm
      have : extend s (v :: vs) = extend s' vs := by
        simp only [extend, fillFree_cons _ _ _ _ hfree, hs']
      rw [hR.1, List.insertIdx_length_self] at hR'
      rw [this, show N - s.cnt = N - s'.cnt + 1 by rw [hs']; exact (Nat.sub_one_add_one (Nat.sub_ne_zero_of_lt hc)).symm,
        List.take_succ_cons, List.append_cons]
      exact ih hI' hR'
    · have hfull : hasFree s.cells = false := Bool.eq_false_iff.mpr (mt hI.hasFree_iff.mp hc)
      have : extend s (v :: vs) = s := by simp only [extend, fillFree_full _ _ _ hfull]
      rw [this, Nat.sub_eq_zero_of_le (Nat.le_of_not_lt hc), List.take_zero, List.append_nil]; exact ⟨hI, hR⟩

theorem extend_refines {N : Nat} {s : AM α} {l : List α} (hI : Inv N s) (hR : Refines s l)
    (vs : List α) (hc : s.cnt + vs.length ≤ N) :
    Inv N (extend s vs) ∧ Refines (extend s vs) (l ++ vs) := by
  have := extend_refines_take hI hR vs
  rwa [List.take_of_length_le (Nat.le_sub_of_add_le' hc)] at this

theorem new_refines (N : Nat) (hN : N ≤ 255) : ∃ s : AM α, new N = .ok s ∧ Inv N s ∧ Refines s [] := by
  have hidx : idxs (List.replicate N (none : Cell α)) = [] := List.filterMap_replicate_of_none rfl
  have hR : Refines (⟨List.replicate N none, 0⟩ : AM α) [] := ⟨rfl, fun i => getL_eq_none (hidx ▸ List.not_mem_nil)⟩
  exact ⟨_, if_neg (Nat.not_lt.mpr hN), .of_refines List.length_replicate hN (congrArg List.length hidx) hR, hR⟩

theorem fillFree_replicate (n : Nat) (l : List α) (k : Nat) (h : l.length ≤ n) :
    fillFree (List.replicate n none) l k =
      ((l.zipIdx k).map (fun (v, i) => some (u8 i, v)) ++ List.replicate (n - l.length) none, k + l.length) := by
  induction l generalizing n k with
  | nil => exact fillFree_nil ..
  | cons a t ih =>
    obtain ⟨m, rfl⟩ := Nat.exists_eq_add_one.mpr (Nat.zero_lt_of_lt h)
    simp only [List.replicate_succ, fillFree, ih m (k + 1) (Nat.le_of_succ_le_succ h), List.zipIdx_cons, List.map_cons,
      List.cons_append, List.length_cons, Nat.add_sub_add_right]
    rw [Nat.add_assoc, Nat.add_comm 1]

theorem fromIter_refines (N : Nat) (l : List α) (hN : N ≤ 255) (hl : l.length ≤ N) :
    ∃ s, fromIter N l = .ok s ∧ Inv N s ∧ Refines s l := by
  obtain ⟨s0, e0, hI0, hR0⟩ := new_refines (α := α) N hN
  simp only [new, if_neg (Nat.not_lt.mpr hN), Except.ok.injEq] at e0
  -- `from_iter` fills the cells as `extend` of the empty map does
  have h := extend_refines hI0 hR0 l (by rw [← e0]; simpa using hl)
  refine ⟨extend s0 l, ?_, h⟩
  simp only [fromIter, if_neg (Nat.not_lt.mpr hN), if_neg (Nat.not_lt.mpr hl), ← e0, extend,
    fillFree_replicate N l 0 hl, Nat.zero_add]

theorem posOf_getElem {i k : Nat} {cs : List (Cell α)} (h : posOf i cs = some k) : ∃ v, cs[k]? = some (some (i, v)) := by
  induction cs generalizing k with
  | nil => cases h
  | cons c t ih =>
    rcases c with _ | ⟨j, w⟩
    · obtain ⟨k', hk', rfl⟩ := Option.map_eq_some_iff.mp h
      exact ih hk'
    · by_cases hj : j = i
      · rw [posOf, if_pos hj] at h
        cases h; exact ⟨w, hj ▸ rfl⟩
      · rw [posOf, if_neg hj] at h
        obtain ⟨k', hk', rfl⟩ := Option.map_eq_some_iff.mp h
        exact ih hk'

theorem posOf_of_getElem {i k : Nat} {v : α} {cs : List (Cell α)} (hnd : (idxs cs).Nodup)
    (h : cs[k]? = some (some (i, v))) : posOf i cs = some k := by
  induction cs generalizing k with
  | nil => cases h
  | cons c t ih =>
    cases k with
    | zero =>
      cases h
      exact if_pos rfl
    | succ k =>
      rw [List.getElem?_cons_succ] at h
      rcases c with _ | ⟨j, w⟩
      · simp [posOf, ih hnd h]
      · rw [idxs_some, List.nodup_cons] at hnd
        have : j ≠ i := fun e => hnd.1 (e ▸ mem_idxs.mpr ⟨v, List.mem_of_getElem? h⟩)
        simp [posOf, this, ih hnd.2 h]

theorem Inv.exists_posOf {N : Nat} {s : AM α} (hI : Inv N s) {i : Nat} (hi : i < s.cnt) : ∃ k, posOf i s.cells = some k := by
  obtain ⟨v, hv⟩ := hI.exists_getL i hi
  obtain ⟨k, hk⟩ := List.getElem?_of_mem (mem_of_getL hv)
  exact ⟨k, posOf_of_getElem hI.nodup hk⟩

theorem setIdxAt_eq_modify (cs : List (Cell α)) (k j : Nat) :
    setIdxAt cs k j = cs.modify k (Option.map fun x => (j, x.2)) := by
  induction cs generalizing k with
  | nil => simp [setIdxAt]
  | cons c t ih =>
    cases k with
    | zero => rcases c with _ | ⟨i, v⟩ <;> rfl
    | succ k => simp [setIdxAt, ih]

def swN (a b i : Nat) : Nat := if i = a then b else if i = b then a else i

def sw (a b : Nat) : Cell α → Cell α
  | some (j, v) => some (swN a b j, v)
  | none => none

@[simp] theorem isSome_sw (a b : Nat) (c : Cell α) : (sw a b c).isSome = c.isSome := by
  rcases c with _ | ⟨j, v⟩ <;> rfl

theorem pick_sw (a b i : Nat) (c : Cell α) : pick i (sw a b c) = pick (swN a b i) c := by
  rcases c with _ | ⟨j, v⟩
  · rfl
  · refine ite_cond_congr (propext ?_)
    simp only [swN]
    grind

theorem swap_cells (a b : Nat) (hab : a ≠ b) (cs : List (Cell α)) (pa pb : Nat)
    (hpa : posOf a cs = some pa) (hpb : posOf b cs = some pb) (hnd : (idxs cs).Nodup) :
    pa ≠ pb ∧ setIdxAt (setIdxAt cs pa b) pb a = cs.map (sw a b) := by
  obtain ⟨va, ha⟩ := posOf_getElem hpa
  obtain ⟨vb, hb⟩ := posOf_getElem hpb
  have hne : pa ≠ pb := by
    intro e; rw [e, hb] at ha; cases ha; exact hab rfl
  refine ⟨hne, List.ext_getElem? fun t => ?_⟩
  rw [setIdxAt_eq_modify, setIdxAt_eq_modify, List.getElem?_modify, List.getElem?_modify, List.getElem?_map]
  by_cases h1 : pb = t
  · rw [← h1, hb]; simp [sw, swN, hne, hab.symm]
  · by_cases h2 : pa = t
    · rw [← h2, ha]; simp [sw, swN, hne.symm]
    · rcases hc : cs[t]? with _ | _ | ⟨j, v⟩
      · rfl
      · simp [h1, h2, sw]
      · have hja : j ≠ a := fun e => h2 (Option.some.inj (hpa.symm.trans (posOf_of_getElem hnd (e ▸ hc))))
        have hjb : j ≠ b := fun e => h1 (Option.some.inj (hpb.symm.trans (posOf_of_getElem hnd (e ▸ hc))))
        simp [sw, swN, hja, hjb, h1, h2]

theorem swap_refines {N : Nat} {s : AM α} {l : List α} (hI : Inv N s) (hR : Refines s l)
    (a b : Nat) (ha : a < s.cnt) (hb : b < s.cnt) :
    ∃ s', swap s a b = .ok s' ∧ Inv N s' ∧
      Refines s' ((l.set a (l[b]'(by rw [← hR.1]; exact hb))).set b (l[a]'(by rw [← hR.1]; exact ha))) := by
  have hla : a < l.length := hR.1 ▸ ha
  have hlb : b < l.length := hR.1 ▸ hb
  by_cases hab : a = b
  · subst hab
    refine ⟨s, if_pos rfl, hI, ?_⟩
    rwa [List.set_set, List.set_getElem_self]
  · have hua := hI.u8 (Nat.le_of_lt ha)
    have hub := hI.u8 (Nat.le_of_lt hb)
    obtain ⟨pa, hpa⟩ := hI.exists_posOf ha
    obtain ⟨pb, hpb⟩ := hI.exists_posOf hb
    obtain ⟨hne, hcells⟩ := swap_cells a b hab s.cells pa pb hpa hpb hI.nodup
    have hR' : Refines ⟨s.cells.map (sw a b), s.cnt⟩ ((l.set a l[b]).set b l[a]) := by
      refine ⟨by simp [hR.1], fun i => ?_⟩
      show getL (s.cells.map (sw a b)) i = _
      rw [getL_map fun c _ => pick_sw a b i c, hR.2]
      simp only [List.getElem?_set, swN]
      grind
    refine ⟨_, by simp [swap, hab, hua, hub, hpa, hpb, hne, hcells], ?_, hR'⟩
    exact .of_refines ((List.length_map _).trans hI.length_cells) hI.cap_le
      ((idxs_length_map (isSome_sw a b) _).trans hI.idxs_length) hR'

def KeysLt (a b : Nat × α) : Prop := a.1 < b.1

theorem insSorted_eq_merge (x : Nat × α) (l : List (Nat × α)) :
    insSorted x l = List.merge [x] l (fun a b => decide (a.1 ≤ b.1)) := by
  induction l with
  | nil => rw [List.merge_right]; rfl
  | cons y t ih => rw [insSorted, List.cons_merge_cons, List.nil_merge, ← ih]; simp only [decide_eq_true_eq]

theorem sortByIdx_perm (l : List (Nat × α)) : (sortByIdx l).Perm l := by
  induction l with
  | nil => exact List.Perm.refl _
  | cons x t ih =>
    rw [sortByIdx, insSorted_eq_merge]
    exact (List.merge_perm_append _).trans (ih.cons x)

theorem sortByIdx_sorted_le (l : List (Nat × α)) : (sortByIdx l).Pairwise fun a b => a.1 ≤ b.1 := by
  induction l with
  | nil => exact List.Pairwise.nil
  | cons x t ih =>
    rw [sortByIdx, insSorted_eq_merge]
    refine (List.pairwise_merge (le := fun a b => decide (a.1 ≤ b.1)) ?_ ?_ [x] _ (List.pairwise_singleton ..)
      (ih.imp decide_eq_true)).imp of_decide_eq_true
    · intro a b c h1 h2
      exact decide_eq_true (Nat.le_trans (of_decide_eq_true h1) (of_decide_eq_true h2))
    · intro a b
      rcases Nat.le_total a.1 b.1 with h | h <;> simp [h]

theorem sortByIdx_sorted_lt (l : List (Nat × α)) (h : (l.map (·.1)).Nodup) : (sortByIdx l).Pairwise KeysLt := by
  have hne : (sortByIdx l).Pairwise fun a b => a.1 ≠ b.1 :=
    List.pairwise_map.mp (((sortByIdx_perm l).map _).nodup_iff.mpr h)
  exact ((sortByIdx_sorted_le l).and hne).imp fun h => Nat.lt_of_le_of_ne h.1 h.2

/-- distinct keys leave one sorted list, whichever sort produces it (`drain` uses `sort_by_key`, the model an
insertion sort) -/
theorem sortByIdx_eq {ps T : List (Nat × α)} (hnd : (ps.map (·.1)).Nodup) (hT : T.Pairwise KeysLt)
    (hmem : ∀ x, x ∈ ps ↔ x ∈ T) : sortByIdx ps = T := by
  have hTn : T.Nodup := hT.imp fun {a b} (h : a.1 < b.1) e => Nat.lt_irrefl _ (e ▸ h)
  have hpn : ps.Nodup := List.Pairwise.of_map (·.1) (fun a b hab e => hab (e ▸ rfl)) hnd
  have hp : (sortByIdx ps).Perm T := (sortByIdx_perm ps).trans ((List.perm_ext_iff_of_nodup hpn hTn).mpr hmem)
  exact hp.eq_of_pairwise (fun a b _ _ h1 h2 => absurd h1 (Nat.lt_asymm h2)) (sortByIdx_sorted_lt ps hnd) hT

/-- exclusive upper end of the range, clipped to `cnt` -/
def hiN (r : Rng) (cnt : Nat) : Nat := match r.hi with | none => cnt | some h => min h cnt

/-! the `let`s of `drain`: the cells taken out, the cells with those emptied, the cells left after renumbering -/

def removedOf (r : Rng) (cs : List (Cell α)) : List (Nat × α) := cs.filterMap fun c => if inRange r c then c else none
def keptOf (r : Rng) (cs : List (Cell α)) : List (Cell α) := cs.map fun c => if inRange r c then none else c
def leftOf (r : Rng) (cs : List (Cell α)) : List (Cell α) :=
  match maxIdx (removedOf r cs) with
  | none => keptOf r cs
  | some mx => (keptOf r cs).map (lowerBy mx (u8 (removedOf r cs).length))

theorem drain_eq (s : AM α) (r : Rng) : drain s r =
    if s.cells.length > 255 then .error "N > u8::MAX is unsupported"
    else .ok ((sortByIdx (removedOf r s.cells)).map (·.2),
      ⟨leftOf r s.cells, s.cnt - (removedOf r s.cells).length⟩) := rfl

theorem getL_keptOf (r : Rng) (cs : List (Cell α)) (i : Nat) :
    getL (keptOf r cs) i = if r.contains i then none else getL cs i := by
  have hp : ∀ c : Cell α, pick i (if inRange r c then none else c) = if r.contains i then none else pick i c := by
    rintro (_ | ⟨j, v⟩)
    · exact (ite_self _).symm
    · rw [inRange, apply_ite (pick i)]
      simp only [pick]
      by_cases e : j = i
      · rw [e]
      · rw [if_neg e, ite_self, ite_self]
  rw [keptOf, getL, List.findSome?_map]
  simp only [Function.comp_def, hp]
  split
  · exact List.findSome?_eq_none_iff.mpr fun _ _ => rfl
  · rfl

theorem idxs_length_keptOf (r : Rng) (cs : List (Cell α)) :
    (idxs (keptOf r cs)).length + (removedOf r cs).length = (idxs cs).length := by
  induction cs with
  | nil => rfl
  | cons c t ih =>
    rcases c with _ | ⟨j, v⟩
    · exact ih
    · rw [keptOf, removedOf, List.map_cons, List.filterMap_cons]
      cases inRange r (some (j, v))
      · exact (Nat.succ_add ..).trans (congrArg (· + 1) ih)
      · exact congrArg (· + 1) ih

@[simp] theorem length_keptOf (r : Rng) (cs : List (Cell α)) : (keptOf r cs).length = cs.length := by simp [keptOf]

theorem removedOf_eq (r : Rng) (cs : List (Cell α)) : removedOf r cs = (cs.filter (inRange r)).filterMap id := by
  rw [List.filterMap_filter]; rfl

theorem mem_removedOf (r : Rng) (cs : List (Cell α)) (j : Nat) (v : α) :
    (j, v) ∈ removedOf r cs ↔ r.contains j = true ∧ some (j, v) ∈ cs := by
  simp only [removedOf_eq, List.mem_filterMap, List.mem_filter, id, exists_eq_right]
  exact and_comm

theorem removedOf_keys_sublist (r : Rng) (cs : List (Cell α)) : ((removedOf r cs).map (·.1)).Sublist (idxs cs) := by
  rw [removedOf_eq, List.map_filterMap]
  exact List.filter_sublist.filterMap _

theorem maxIdx_eq_max? (ps : List (Nat × α)) : maxIdx ps = (ps.map (·.1)).max? := by
  induction ps with
  | nil => rfl
  | cons x t ih => rw [maxIdx, ih, List.map_cons, List.max?_cons]; cases (t.map (·.1)).max? <;> rfl

theorem hiN_le (r : Rng) (cnt : Nat) : hiN r cnt ≤ cnt := by
  unfold hiN; cases r.hi <;> simp <;> omega

theorem contains_iff_hiN (r : Rng) (cnt j : Nat) (hj : j < cnt) : r.contains j = true ↔ r.lo ≤ j ∧ j < hiN r cnt := by
  unfold Rng.contains hiN
  cases r.hi <;> simp only [Bool.and_eq_true, Bool.and_true, decide_eq_true_eq, Nat.lt_min, hj, and_true]

theorem Inv.mem_removedOf {N : Nat} {s : AM α} {l : List α} (hI : Inv N s) (hR : Refines s l) (r : Rng) (j : Nat) (v : α) :
    (j, v) ∈ removedOf r s.cells ↔ (r.lo ≤ j ∧ j < hiN r s.cnt) ∧ l[j]? = some v := by
  rw [Slots.mem_removedOf, ← hR.2, show some (j, v) ∈ s.cells ↔ _ from ⟨getL_of_mem hI.nodup, mem_of_getL⟩]
  exact and_congr_left fun h => contains_iff_hiN r s.cnt j (hI.mem_idxs.mp (Slots.mem_idxs.mpr ⟨v, mem_of_getL h⟩))

theorem Inv.getL_keptOf {N : Nat} {s : AM α} (hI : Inv N s) (r : Rng) (i : Nat) :
    getL (keptOf r s.cells) i = if r.lo ≤ i ∧ i < hiN r s.cnt then none else getL s.cells i := by
  rw [Slots.getL_keptOf]
  by_cases hi : i < s.cnt
  · simp only [contains_iff_hiN r s.cnt i hi]
  · rw [hI.getL_of_cnt_le i (Nat.le_of_not_lt hi), ite_self, ite_self]

/-- the `(logical index, value)` pairs of `l[lo .. lo+n)`, in order -/
def targetOf (l : List α) (lo n : Nat) : List (Nat × α) :=
  (List.range' lo n).filterMap fun j => (l[j]?).map (j, ·)

theorem mem_targetOf {l : List α} {lo n j : Nat} {v : α} :
    (j, v) ∈ targetOf l lo n ↔ (lo ≤ j ∧ j < lo + n) ∧ l[j]? = some v := by
  simp only [targetOf, List.mem_filterMap, List.mem_range'_1, Option.map_eq_some_iff, Prod.mk.injEq,
    exists_eq_right_right]

theorem targetOf_pairwise (l : List α) (lo n : Nat) : (targetOf l lo n).Pairwise KeysLt := by
  refine List.Pairwise.filterMap _ (fun a a' h b hb b' hb' => ?_) (List.pairwise_lt_range' (s := lo) (n := n))
  simp only [Option.map_eq_some_iff] at hb hb'
  obtain ⟨_, _, rfl⟩ := hb
  obtain ⟨_, _, rfl⟩ := hb'
  exact h

theorem targetOf_map_snd (l : List α) (lo n : Nat) : (targetOf l lo n).map (·.2) = (l.drop lo).take n := by
  rw [targetOf, List.map_filterMap, ← filterMap_getElem?_range']
  congr 1; funext j; cases l[j]? <;> rfl

theorem Inv.sortByIdx_removedOf {N : Nat} {s : AM α} {l : List α} (hI : Inv N s) (hR : Refines s l) (r : Rng) :
    sortByIdx (removedOf r s.cells) = targetOf l r.lo (hiN r s.cnt - r.lo) := by
  refine sortByIdx_eq ((removedOf_keys_sublist r s.cells).nodup hI.nodup) (targetOf_pairwise ..) fun ⟨j, v⟩ => ?_
  rw [hI.mem_removedOf hR, mem_targetOf]
  exact and_congr_left fun _ => by omega

theorem Inv.maxIdx_removedOf {N : Nat} {s : AM α} {l : List α} (hI : Inv N s) (hR : Refines s l) (r : Rng)
    (h : r.lo < hiN r s.cnt) : maxIdx (removedOf r s.cells) = some (hiN r s.cnt - 1) := by
  have hH := hiN_le r s.cnt
  have hlast : hiN r s.cnt - 1 < l.length := hR.1 ▸ Nat.lt_of_lt_of_le (Nat.sub_one_lt_of_lt h) hH
  rw [maxIdx_eq_max?, List.max?_eq_some_iff]
  refine ⟨List.mem_map.mpr ⟨(_, l[hiN r s.cnt - 1]), ?_, rfl⟩, fun b hb => ?_⟩
  · exact (hI.mem_removedOf hR r _ _).mpr
      ⟨⟨Nat.le_sub_one_of_lt h, Nat.sub_one_lt_of_lt h⟩, List.getElem?_eq_getElem hlast⟩
  · obtain ⟨⟨j, v⟩, hp, rfl⟩ := List.mem_map.mp hb
    exact Nat.le_sub_one_of_lt ((hI.mem_removedOf hR r _ _).mp hp).1.2

theorem Inv.sortByIdx_removedOf_map_snd {N : Nat} {s : AM α} {l : List α} (hI : Inv N s) (hR : Refines s l) (r : Rng) :
    (sortByIdx (removedOf r s.cells)).map (·.2) = (l.drop r.lo).take (hiN r s.cnt - r.lo) := by
  rw [hI.sortByIdx_removedOf hR, targetOf_map_snd]

theorem Inv.length_removedOf {N : Nat} {s : AM α} {l : List α} (hI : Inv N s) (hR : Refines s l) (r : Rng) :
    (removedOf r s.cells).length = hiN r s.cnt - r.lo := by
  rw [← (sortByIdx_perm _).length_eq, ← List.length_map (·.2), hI.sortByIdx_removedOf_map_snd hR, List.length_take,
    List.length_drop, ← hR.1]
  exact Nat.min_eq_left (Nat.sub_le_sub_right (hiN_le r s.cnt) _)

theorem length_leftOf (r : Rng) (cs : List (Cell α)) : (leftOf r cs).length = cs.length := by
  unfold leftOf
  split <;> simp

theorem idxs_length_leftOf (r : Rng) (cs : List (Cell α)) :
    (idxs (leftOf r cs)).length + (removedOf r cs).length = (idxs cs).length := by
  rw [← idxs_length_keptOf r cs]
  unfold leftOf
  split
  · rfl
  · rw [idxs_length_map (isSome_lowerBy _ _)]

theorem Inv.getL_leftOf {N : Nat} {s : AM α} {l : List α} (hI : Inv N s) (hR : Refines s l) (r : Rng) {n : Nat}
    (hn : hiN r s.cnt = r.lo + n) (i : Nat) :
    getL (leftOf r s.cells) i = if i < r.lo then getL s.cells i else getL s.cells (i + n) := by
  have hH := hiN_le r s.cnt
  have hkept := hI.getL_keptOf r
  have hmax := hI.maxIdx_removedOf hR r
  have hlen := hI.length_removedOf hR r
  simp only [hn, Nat.add_sub_cancel_left] at hH hkept hmax hlen
  unfold leftOf
  rcases Nat.eq_zero_or_pos n with rfl | hn0
  · rw [List.length_eq_zero_iff.mp hlen]
    show getL (keptOf r s.cells) i = _
    rw [hkept, Nat.add_zero, Nat.add_zero, if_neg (not_and.mpr Nat.not_lt.mpr), ite_self]
  · rw [hmax (Nat.lt_add_of_pos_right hn0), hlen, hI.u8 (Nat.le_trans (Nat.le_add_left ..) hH)]
    exact getL_map_lowerBy (Nat.sub_add_cancel (Nat.le_trans hn0 (Nat.le_add_left ..))) hkept i

theorem drain_refines {N : Nat} {s : AM α} {l : List α} (hI : Inv N s) (hR : Refines s l) (r : Rng)
    (hlo : r.lo ≤ hiN r s.cnt) :
    ∃ s', drain s r = .ok ((l.drop r.lo).take (hiN r s.cnt - r.lo), s') ∧ Inv N s' ∧
      Refines s' (l.take r.lo ++ l.drop (hiN r s.cnt)) := by
  obtain ⟨n, hn⟩ := Nat.exists_eq_add_of_le hlo
  have hH : r.lo + n ≤ s.cnt := hn ▸ hiN_le r s.cnt
  have hlen : (removedOf r s.cells).length = n := by rw [hI.length_removedOf hR, hn, Nat.add_sub_cancel_left]
  have hocc := idxs_length_leftOf r s.cells
  rw [hlen, hI.idxs_length] at hocc
  have hR' : Refines ⟨leftOf r s.cells, s.cnt - n⟩ (l.take r.lo ++ l.drop (hiN r s.cnt)) := by
    refine ⟨?_, fun i => ?_⟩
    · rw [List.length_append, List.length_take, List.length_drop, ← hR.1, hn,
        Nat.min_eq_left (Nat.le_trans (Nat.le_add_right ..) hH), ← Nat.add_sub_assoc hH, Nat.add_sub_add_left]
    · show getL (leftOf r s.cells) i = _
      rw [hI.getL_leftOf hR r hn, hR.2, hR.2, hn, getElem?_take_append_drop]
  refine ⟨_, ?_, .of_refines (by rw [length_leftOf, hI.length_cells]) hI.cap_le
    (Nat.eq_sub_of_add_eq hocc) hR', hR'⟩
  rw [drain_eq, if_neg (Nat.not_lt.mpr (hI.length_cells ▸ hI.cap_le)), hlen, hI.sortByIdx_removedOf_map_snd hR]

end Slots
