import SdModel.Model.Rope

/-! Lemmas for C09 (rope ≈ growable array). A position is chunk `ch` of `r = pre ++ ch :: post` at offset `p`, i.e.
`(flat pre).length + p` (`exists_split`): the code's `index - count` is then `p`, and the `_split` lemmas say what each
list operation does there. Rebalancing keeps `flat` and turns `Bounded` into `RInv`; `insert` and `drain` end in
`rebalance_if`. `c.length + 1 ≤ P.MAX` is `c.length < P.MAX` by definition; proofs supply either. -/
namespace Rope
variable {α : Type}

/-- arithmetic side conditions on the constants extracted from the source -/
structure PWF (P : Params) : Prop where
  base_pos : 0 < P.BASE
  base_lt : P.BASE < P.MAX
  high_lt : P.HIGH < P.MAX
  chunk_pos : 0 < P.CHUNK
  chunk_lt : P.CHUNK < P.MAX

/-- representation invariant: every chunk holds between 1 and MAX-1 elements -/
def RInv (P : Params) (r : Chunks α) : Prop := ∀ c ∈ r, 1 ≤ c.length ∧ c.length + 1 ≤ P.MAX

/-- all chunks are within capacity (possibly empty): what holds in the middle of an operation -/
def Bounded (P : Params) (r : Chunks α) : Prop := ∀ c ∈ r, c.length + 1 ≤ P.MAX

theorem RInv.bounded {P : Params} {r : Chunks α} (h : RInv P r) : Bounded P r := fun c hc => (h c hc).2

theorem Bounded.eraseIdx {P : Params} {r : Chunks α} (h : Bounded P r) (k : Nat) : Bounded P (r.eraseIdx k) :=
  fun c hc => h c (List.mem_of_mem_eraseIdx hc)

@[simp] theorem flat_nil : flat ([] : Chunks α) = [] := rfl
@[simp] theorem flat_cons (c : List α) (r : Chunks α) : flat (c :: r) = c ++ flat r := rfl
@[simp] theorem flat_append (a b : Chunks α) : flat (a ++ b) = flat a ++ flat b := List.flatten_append

theorem len_eq (r : Chunks α) : len r = (flat r).length := by
  rw [len, flat, List.length_flatten, List.sum_eq_foldl_nat, List.foldl_map]

/-! ### rebalancing keeps `flat` and turns `Bounded` into `RInv` -/

theorem takeFromLater_zero (l : Chunks α) : takeFromLater 0 l = ([], l) := by
  cases l <;> rfl

/-- either nothing of `l` is left over, or nothing is taken from later chunks. `ht` is `takeFromLater_flat`, a
hypothesis because that lemma's induction step is an instance. -/
theorem take_fill (l : List α) (rest : Chunks α) (k m : Nat) (h : l.length ≤ k ∨ m = 0)
    (ht : (takeFromLater m rest).1 ++ flat (takeFromLater m rest).2 = flat rest) :
    l.take k ++ (takeFromLater m rest).1 ++ (l.drop k ++ flat (takeFromLater m rest).2) = l ++ flat rest := by
  rcases h with h | rfl
  · rw [List.take_of_length_le h, List.drop_of_length_le h, List.nil_append, List.append_assoc, ht]
  · rw [takeFromLater_zero, List.append_nil, ← List.append_assoc, List.take_append_drop]

theorem takeFromLater_flat (n : Nat) (l : Chunks α) :
    (takeFromLater n l).1 ++ flat (takeFromLater n l).2 = flat l := by
  induction l generalizing n with
  | nil => rfl
  | cons c cs ih =>
    rw [takeFromLater]
    split
    · rfl
    · exact take_fill c cs _ _ (by omega) (ih _)

/-- the `(Less, _)` arm of `rebalance_from_key` when something is carried -/
theorem less_case (B : Nat) (carry c : List α) (rest : Chunks α) :
    let all := carry ++ c
    let t := takeFromLater (B - (all.take B).length) rest
    all.take B ++ t.1 ++ (all.drop B ++ flat t.2) = carry ++ c ++ flat rest :=
  take_fill _ rest B _ (by rw [List.length_take]; omega) (takeFromLater_flat _ rest)

theorem flat_step {x carry' carry c : List α} {rest' rest : Chunks α} {R : Chunks α × List α}
    (ih : flat R.1 ++ R.2 = carry' ++ flat rest') (hx : x ++ (carry' ++ flat rest') = carry ++ (c ++ flat rest)) :
    flat (x :: R.1) ++ R.2 = carry ++ flat (c :: rest) := by
  rw [flat_cons, List.append_assoc, ih, hx, flat_cons]

/-- Cases of `fun_induction rebalLoop`, here and in `rebalLoop_bounded`: 1 no chunk left; 2 empty chunk (`continue`);
3 `break`; 4 `(Less, _)`; 5 `(Equal, true)`; 6 `(Equal | Greater, false)`; 7 `(Greater, true)`. -/
theorem rebalLoop_flat (P : Params) (carry : List α) (rest : Chunks α) :
    flat (rebalLoop P carry rest).1 ++ (rebalLoop P carry rest).2 = carry ++ flat rest := by
  fun_induction rebalLoop P carry rest
  case case1 => exact (List.append_nil _).symm
  case case2 carry rest r ih => exact ih
  case case3 carry c rest hc hbrk => rw [hbrk.2.2]; exact List.append_nil _
  case case4 carry c rest hc hbrk hlt all hold carry' t r ih =>
    refine flat_step ih ?_
    by_cases hce : carry = []
    · subst hce
      simp only [hold, carry', t, dite_true, List.nil_append, List.append_assoc]
      rw [takeFromLater_flat]
    · simp only [hold, carry', t, hce, dite_false]
      rw [← List.append_assoc carry]
      exact less_case P.BASE carry c rest
  case case5 carry c rest hc hbrk hlt heq r ih => exact flat_step ih (by rw [heq.2]; rfl)
  case case6 carry c rest hc hbrk hlt heq hne all r ih =>
    exact flat_step ih (by rw [← List.append_assoc, List.take_append_drop, List.append_assoc])
  case case7 carry c rest hc hbrk hlt heq hne r ih =>
    exact flat_step ih (by rw [← List.append_assoc, List.take_append_drop, Decidable.not_not.mp hne]; rfl)

theorem takeFromLater_fst_len (n : Nat) (l : Chunks α) : (takeFromLater n l).1.length ≤ n := by
  induction l generalizing n with
  | nil => exact Nat.zero_le n
  | cons c cs ih =>
    simp only [takeFromLater]
    split
    · simp
    · rw [List.length_append, List.length_take, Nat.min_assoc, Nat.min_self]
      exact Nat.add_le_of_le_sub' (Nat.min_le_left ..) (ih _)

theorem takeFromLater_bounded (P : Params) (n : Nat) (l : Chunks α) (h : Bounded P l) :
    Bounded P (takeFromLater n l).2 := by
  induction l generalizing n with
  | nil => nofun
  | cons c cs ih =>
    simp only [takeFromLater]
    split
    · exact h
    · rw [Bounded, List.forall_mem_cons] at h ⊢
      exact ⟨Nat.lt_of_le_of_lt (List.drop_sublist ..).length_le h.1, ih _ h.2⟩

/-- the first chunk may be over-full (`MAX` elements right after an insert): the loop `break`s only on a chunk of at
most `HIGH` elements and cuts every other down to `BASE` -/
theorem rebalLoop_bounded (P : Params) (hB : P.BASE < P.MAX) (hH : P.HIGH < P.MAX) (carry : List α) (rest : Chunks α)
    (h : Bounded P rest.tail) : Bounded P (rebalLoop P carry rest).1 := by
  have tl : ∀ {l : Chunks α}, Bounded P l → Bounded P l.tail := fun h c hc => h c (List.mem_of_mem_tail hc)
  have tk : ∀ l : List α, (l.take P.BASE).length < P.MAX := fun l => Nat.lt_of_le_of_lt (List.length_take_le ..) hB
  fun_induction rebalLoop P carry rest
  case case1 => nofun
  case case2 carry rest r ih => exact List.forall_mem_cons.mpr ⟨Nat.zero_lt_of_lt hB, ih (tl h)⟩
  case case3 carry c rest hc hbrk => exact List.forall_mem_cons.mpr ⟨Nat.lt_of_le_of_lt hbrk.2.1 hH, h⟩
  case case4 carry c rest hc hbrk hlt all hold carry' t r ih =>
    refine List.forall_mem_cons.mpr ⟨?_, ih (tl (takeFromLater_bounded P _ rest h))⟩
    have h2 : hold.length ≤ P.BASE := by
      simp only [hold]; split
      · exact Nat.le_of_lt hlt
      · exact List.length_take_le ..
    rw [List.length_append]
    exact Nat.lt_of_le_of_lt (Nat.add_le_of_le_sub' h2 (takeFromLater_fst_len _ rest)) hB
  case case5 carry c rest hc hbrk hlt heq r ih => exact List.forall_mem_cons.mpr ⟨heq.1 ▸ hB, ih (tl h)⟩
  case case6 carry c rest hc hbrk hlt heq hne all r ih => exact List.forall_mem_cons.mpr ⟨tk _, ih (tl h)⟩
  case case7 carry c rest hc hbrk hlt heq hne r ih => exact List.forall_mem_cons.mpr ⟨tk _, ih (tl h)⟩

theorem filter_nonempty_flat (r : Chunks α) : flat (r.filter (fun c => !c.isEmpty)) = flat r :=
  List.flatten_filter_not_isEmpty

theorem filter_nonempty_inv (P : Params) (r : Chunks α) (h : Bounded P r) : RInv P (r.filter (fun c => !c.isEmpty)) := by
  intro c hc
  obtain ⟨h1, h2⟩ := List.mem_filter.mp hc
  exact ⟨by cases c; nomatch h2; exact Nat.succ_pos _, h c h1⟩

theorem fixLast_flat (P : Params) (r : Chunks α) (carry : List α) :
    flat (fixLast P r carry).1 ++ (fixLast P r carry).2 = flat r ++ carry := by
  fun_induction fixLast P r carry
  case case1 => rfl
  case case2 l carry k => simp [List.append_assoc]
  case case3 c cs carry hne r ih => simp only [r, flat_cons, List.append_assoc] at *; rw [ih]

theorem fixLast_inv (P : Params) (hB : P.BASE < P.MAX) (r : Chunks α) (carry : List α) (h : RInv P r) :
    RInv P (fixLast P r carry).1 := by
  fun_induction fixLast P r carry
  case case1 => nofun
  case case2 l carry k =>
    have := h l (List.mem_singleton_self l)
    have hk : (carry.take k).length ≤ P.BASE - l.length := Nat.le_trans (List.length_take_le ..) (Nat.min_le_left ..)
    refine List.forall_mem_cons.mpr ⟨?_, nofun⟩
    rw [List.length_append]; omega
  case case3 c cs carry hne r ih =>
    rw [RInv, List.forall_mem_cons] at h ⊢
    exact ⟨h.1, ih h.2⟩

theorem chunksOf_nil (fuel n : Nat) : chunksOf fuel n ([] : List α) = [] := by
  cases fuel <;> rfl

theorem chunksOf_spec (n : Nat) (hn : 0 < n) (fuel : Nat) (l : List α) (hf : l.length < fuel) :
    flat (chunksOf fuel n l) = l ∧ ∀ c ∈ chunksOf fuel n l, 1 ≤ c.length ∧ c.length ≤ n := by
  induction fuel generalizing l with
  | zero => nomatch hf
  | succ fuel ih =>
    by_cases hne : l = []
    · rw [hne, chunksOf_nil]; exact ⟨rfl, nofun⟩
    · have hpos : 0 < l.length := List.length_pos_iff.mpr hne
      rw [chunksOf, if_neg hne]
      by_cases hle : n ≤ l.length
      · have hlen := List.length_take_of_le hle
        obtain ⟨h1, h2⟩ := ih (l.drop n) (Nat.lt_of_lt_of_le (List.length_drop ▸ Nat.sub_lt hpos hn) (Nat.le_of_lt_succ hf))
        simp only [hlen, ne_eq, not_true, if_false]
        rw [flat_cons, h1, List.take_append_drop, List.forall_mem_cons, hlen]
        exact ⟨rfl, ⟨hn, Nat.le_refl n⟩, h2⟩
      · simp only [List.take_of_length_le (Nat.le_of_not_le hle), if_pos (Nat.ne_of_lt (Nat.not_le.mp hle))]
        exact ⟨List.append_nil l, List.forall_mem_cons.mpr ⟨⟨hpos, Nat.le_of_not_le hle⟩, nofun⟩⟩

theorem chunksOf_inv (P : Params) (n : Nat) (hn : 0 < n) (hlt : n < P.MAX) (l : List α) :
    RInv P (chunksOf (l.length + 1) n l) := fun c hc =>
  have := (chunksOf_spec n hn _ l (Nat.lt_succ_self _)).2 c hc
  ⟨this.1, Nat.lt_of_le_of_lt this.2 hlt⟩

theorem fromIter_spec (P : Params) (hw : PWF P) (l : List α) : RInv P (fromIter P l) ∧ flat (fromIter P l) = l :=
  ⟨chunksOf_inv P _ hw.chunk_pos hw.chunk_lt l, (chunksOf_spec _ hw.chunk_pos _ l (Nat.lt_succ_self _)).1⟩

theorem new_spec (P : Params) : RInv P (new false : Chunks α) ∧ flat (new false : Chunks α) = [] :=
  ⟨nofun, rfl⟩

theorem pushCarry_eq_chunksOf (P : Params) (fuel : Nat) (carry : List α) :
    pushCarry P fuel carry = chunksOf fuel P.BASE carry := by
  induction fuel generalizing carry with
  | zero => rfl
  | succ fuel ih =>
    simp only [pushCarry, chunksOf, ih, List.length_take]
    by_cases h : carry.length > P.BASE
    · rw [if_pos h, if_neg (List.ne_nil_of_length_pos (Nat.zero_lt_of_lt h)),
        if_neg (not_not_intro (Nat.min_eq_left (Nat.le_of_lt h)))]
    · rw [if_neg h, List.take_of_length_le (Nat.not_lt.mp h), List.drop_of_length_le (Nat.not_lt.mp h), chunksOf_nil,
        ite_self]

theorem finish_flat (P : Params) (hB : 0 < P.BASE) (chunks : Chunks α) (carry : List α) :
    flat (finish P chunks carry) = flat chunks ++ carry := by
  unfold finish
  split
  · rename_i h; rw [h, List.append_nil, filter_nonempty_flat]
  · rw [flat_append, pushCarry_eq_chunksOf, (chunksOf_spec _ hB _ _ (Nat.lt_succ_self _)).1, fixLast_flat,
      filter_nonempty_flat]

theorem finish_inv (P : Params) (h0 : 0 < P.BASE) (hB : P.BASE < P.MAX) (chunks : Chunks α) (carry : List α)
    (h : Bounded P chunks) :
    RInv P (finish P chunks carry) := by
  have hk := filter_nonempty_inv P chunks h
  unfold finish
  split
  · exact hk
  · simp only [pushCarry_eq_chunksOf]
    exact List.forall_mem_append.mpr
      ⟨fixLast_inv P hB _ carry hk, chunksOf_inv P _ h0 hB _⟩

theorem rebalance_flat (P : Params) (hw : PWF P) (r : Chunks α) (k : Nat) : flat (rebalance P r k) = flat r := by
  simp only [rebalance]
  rw [finish_flat P hw.base_pos, flat_append, List.append_assoc, rebalLoop_flat]
  simp only [List.nil_append]
  rw [← flat_append, List.take_append_drop]

theorem rebalance_inv (P : Params) (hw : PWF P) (r : Chunks α) (k : Nat) (h : Bounded P (r.eraseIdx k)) :
    RInv P (rebalance P r k) := by
  rw [List.eraseIdx_eq_take_drop_succ, Bounded, List.forall_mem_append, ← List.tail_drop] at h
  exact finish_inv P hw.base_pos hw.base_lt _ _ (List.forall_mem_append.mpr
    ⟨h.1, rebalLoop_bounded P hw.base_lt hw.high_lt [] (r.drop k) h.2⟩)

theorem rebalance_if (P : Params) (hw : PWF P) (b : Prop) [Decidable b] (r : Chunks α) (k : Nat) {L : List α}
    (hB : Bounded P (r.eraseIdx k)) (hI : ¬ b → RInv P r) (hL : flat r = L) :
    RInv P (if b then rebalance P r k else r) ∧ flat (if b then rebalance P r k else r) = L := by
  split
  · exact ⟨rebalance_inv P hw r k hB, (rebalance_flat P hw r k).trans hL⟩
  · exact ⟨hI ‹_›, hL⟩

/-! ### one position: chunk `ch` of `pre ++ ch :: post`, offset `p` -/

theorem flat_split (pre : Chunks α) (ch : List α) (post : Chunks α) :
    flat (pre ++ ch :: post) = flat pre ++ (ch ++ flat post) := by
  rw [flat_append, flat_cons]

theorem rinv_split {P : Params} {pre : Chunks α} {ch : List α} {post : Chunks α} :
    RInv P (pre ++ ch :: post) ↔ RInv P pre ∧ (1 ≤ ch.length ∧ ch.length + 1 ≤ P.MAX) ∧ RInv P post := by
  simp only [RInv, List.forall_mem_append, List.forall_mem_cons]

theorem bounded_split {P : Params} {pre : Chunks α} {ch : List α} {post : Chunks α} :
    Bounded P (pre ++ ch :: post) ↔ Bounded P pre ∧ ch.length + 1 ≤ P.MAX ∧ Bounded P post := by
  simp only [Bounded, List.forall_mem_append, List.forall_mem_cons]

theorem exists_split (r : Chunks α) (i : Nat) (hi : i < (flat r).length) :
    ∃ pre ch post p, r = pre ++ ch :: post ∧ i = (flat pre).length + p ∧ p < ch.length := by
  induction r generalizing i with
  | nil => nomatch hi
  | cons c cs ih =>
    by_cases h : i < c.length
    · exact ⟨[], c, cs, i, rfl, (Nat.zero_add i).symm, h⟩
    · obtain ⟨k, rfl⟩ := Nat.exists_eq_add_of_le (Nat.not_lt.mp h)
      obtain ⟨pre, ch, post, p, rfl, rfl, hlt⟩ := ih k (Nat.lt_of_add_lt_add_left (Nat.lt_of_lt_of_eq hi List.length_append))
      exact ⟨c :: pre, ch, post, p, rfl, by rw [flat_cons, List.length_append, Nat.add_assoc], hlt⟩

theorem kwc_append (pre rest : Chunks α) (i idx seen : Nat) (h : seen + (flat pre).length ≤ i) :
    kwc (pre ++ rest) i idx seen = kwc rest i (idx + pre.length) (seen + (flat pre).length) := by
  induction pre generalizing idx seen with
  | nil => rfl
  | cons c cs ih =>
    rw [flat_cons, List.length_append, ← Nat.add_assoc] at h ⊢
    rw [List.cons_append, kwc, if_neg (Nat.not_lt.mpr (Nat.le_of_add_right_le h)), ih _ _ h, List.length_cons,
      Nat.add_assoc idx, Nat.add_comm 1]

theorem keyWithCount_split {pre : Chunks α} {ch : List α} {post : Chunks α} {p : Nat} (hp : p < ch.length) :
    keyWithCount (pre ++ ch :: post) ((flat pre).length + p) = (pre.length, (flat pre).length) := by
  rw [keyWithCount, kwc_append _ _ _ _ _ (by omega), kwc, if_pos (by omega), Nat.zero_add, Nat.zero_add]

theorem keyWithCount_ge (r : Chunks α) (i : Nat) (hi : (flat r).length ≤ i) :
    keyWithCount r i = (r.length, (flat r).length) := by
  have := kwc_append r [] i 0 0 (by omega)
  rwa [List.append_nil, kwc, Nat.zero_add, Nat.zero_add] at this

theorem keyWithCountFromPrev_split {pre rest : Chunks α} {j : Nat} (h : (flat pre).length ≤ j) :
    keyWithCountFromPrev (pre ++ rest) j pre.length (flat pre).length = keyWithCount (pre ++ rest) j := by
  rw [keyWithCountFromPrev, if_neg (Nat.not_lt.mpr h), List.drop_left' rfl, keyWithCount,
    kwc_append _ _ _ _ _ (by omega), Nat.zero_add, Nat.zero_add]

theorem length_lt_split (pre : Chunks α) (ch : List α) (post : Chunks α) : pre.length < (pre ++ ch :: post).length := by
  rw [List.length_append, List.length_cons]; omega

theorem getElem?_split (pre : Chunks α) (ch : List α) (post : Chunks α) : (pre ++ ch :: post)[pre.length]? = some ch := by
  rw [List.getElem?_append_right (Nat.le_refl _), Nat.sub_self, List.getElem?_cons_zero]

theorem modifyChunk_split (pre : Chunks α) (ch c' : List α) (post : Chunks α) :
    modifyChunk (pre ++ ch :: post) pre.length c' = pre ++ c' :: post := by
  rw [modifyChunk, List.set_append_right _ _ (Nat.le_refl _), Nat.sub_self, List.set_cons_zero]

theorem eraseIdx_split (pre : Chunks α) (ch : List α) (post : Chunks α) :
    (pre ++ ch :: post).eraseIdx pre.length = pre ++ post := by
  rw [List.eraseIdx_append_of_length_le (Nat.le_refl _), Nat.sub_self, List.eraseIdx_cons_zero]

theorem take_flat_split {pre : Chunks α} {ch : List α} {post : Chunks α} {p : Nat} (hp : p ≤ ch.length) :
    (flat (pre ++ ch :: post)).take ((flat pre).length + p) = flat pre ++ ch.take p := by
  rw [flat_split, List.take_length_add_append, List.take_append_of_le_length hp]

theorem drop_flat_split {pre : Chunks α} {ch : List α} {post : Chunks α} {p : Nat} (hp : p ≤ ch.length) :
    (flat (pre ++ ch :: post)).drop ((flat pre).length + p) = ch.drop p ++ flat post := by
  rw [flat_split, List.drop_length_add_append, List.drop_append_of_le_length hp]

theorem getElem_flat_split {pre : Chunks α} {ch : List α} {post : Chunks α} {p : Nat} (hp : p < ch.length)
    (h : (flat pre).length + p < (flat (pre ++ ch :: post)).length) :
    (flat (pre ++ ch :: post))[(flat pre).length + p] = ch[p] := by
  simp only [flat_split, List.getElem_append_right (Nat.le_add_right _ _), Nat.add_sub_cancel_left,
    List.getElem_append_left hp]

theorem set_flat_split {pre : Chunks α} {ch : List α} {post : Chunks α} {p : Nat} {v : α} (hp : p < ch.length) :
    (flat (pre ++ ch :: post)).set ((flat pre).length + p) v = flat (pre ++ ch.set p v :: post) := by
  rw [flat_split, flat_split, List.set_append_right _ _ (Nat.le_add_right _ _), Nat.add_sub_cancel_left,
    List.set_append_left _ _ hp]

theorem index_ok (r : Chunks α) (i : Nat) (hi : i < (flat r).length) : index r i = .ok ((flat r)[i]) := by
  obtain ⟨pre, ch, post, p, rfl, rfl, hp⟩ := exists_split r i hi
  simp only [index, keyWithCount_split hp, getElem?_split, Nat.add_sub_cancel_left, cIndex,
    List.getElem?_eq_getElem hp, getElem_flat_split hp]

theorem index_panics (r : Chunks α) (i : Nat) (hi : (flat r).length ≤ i) : ∃ e, index r i = .error e := by
  simp only [index, keyWithCount_ge r i hi, List.getElem?_eq_none (Nat.le_refl _)]
  exact ⟨_, rfl⟩

theorem set_refines (P : Params) (r : Chunks α) (i : Nat) (v : α) (hI : RInv P r) (hi : i < (flat r).length) :
    ∃ r', set r i v = .ok r' ∧ RInv P r' ∧ flat r' = (flat r).set i v := by
  obtain ⟨pre, ch, post, p, rfl, rfl, hp⟩ := exists_split r i hi
  refine ⟨pre ++ ch.set p v :: post, ?_, ?_, (set_flat_split hp).symm⟩
  · simp only [set, keyWithCount_split hp, getElem?_split, Nat.add_sub_cancel_left, cSet, if_pos hp,
      modifyChunk_split]
  · rw [rinv_split, List.length_set]; exact rinv_split.mp hI

theorem _root_.List.insertIdx_eq_take_append_cons_drop {l : List α} {i : Nat} {x : α} (h : i ≤ l.length) :
    l.insertIdx i x = l.take i ++ x :: l.drop i := by
  obtain ⟨l₁, l₂, rfl, rfl, e⟩ := List.exists_of_modifyTailIdx (List.cons x) h
  rw [List.insertIdx, e, List.take_left, List.drop_left]

theorem cInsert_ok (P : Params) (c : List α) (p : Nat) (v : α) (hp : p ≤ c.length) (hc : c.length < P.MAX) :
    cInsert P c p v = .ok (c.take p ++ v :: c.drop p) := by
  rw [cInsert, if_neg (not_not_intro (Nat.lt_of_le_of_lt hp hc)), if_neg (not_not_intro hc), if_neg (Nat.not_lt.mpr hp)]

theorem length_take_cons_drop (c : List α) (p : Nat) (v : α) (hp : p ≤ c.length) :
    (c.take p ++ v :: c.drop p).length = c.length + 1 := by
  rw [← List.insertIdx_eq_take_append_cons_drop hp, List.length_insertIdx_of_le_length hp]

theorem insert_refines (P : Params) (hw : PWF P) (r : Chunks α) (i : Nat) (x : α) (hI : RInv P r)
    (hi : i ≤ (flat r).length) :
    ∃ r', insert P r i x = .ok r' ∧ RInv P r' ∧ flat r' = (flat r).insertIdx i x := by
  by_cases hlt : i < (flat r).length
  · obtain ⟨pre, ch, post, p, rfl, rfl, hp⟩ := exists_split r i hlt
    obtain ⟨hpre, hch, hpost⟩ := rinv_split.mp hI
    simp only [insert, keyWithCount_split hp, if_neg (Nat.ne_of_lt (length_lt_split ..)), getElem?_split,
      Nat.add_sub_cancel_left, cInsert_ok P ch p x (Nat.le_of_lt hp) hch.2, modifyChunk_split]
    have hlen := length_take_cons_drop ch p x (Nat.le_of_lt hp)
    refine ⟨_, rfl, rebalance_if P hw _ _ _ ?_ (fun hnf => ?_) ?_⟩
    · rw [eraseIdx_split]; exact List.forall_mem_append.mpr ⟨hpre.bounded, hpost.bounded⟩
    · rw [hlen] at hnf
      exact rinv_split.mpr ⟨hpre, ⟨hlen ▸ Nat.le_add_left 1 _, hlen ▸ Nat.lt_of_le_of_ne hch.2 hnf⟩, hpost⟩
    · rw [List.insertIdx_eq_take_append_cons_drop hi, take_flat_split (Nat.le_of_lt hp), drop_flat_split (Nat.le_of_lt hp), flat_split]
      simp only [List.append_assoc, List.cons_append]
  · have hie : i = (flat r).length := Nat.le_antisymm hi (Nat.not_lt.mp hlt)
    subst hie
    have hm : 1 < P.MAX := Nat.lt_of_le_of_lt hw.base_pos hw.base_lt
    simp only [insert, keyWithCount_ge r _ (Nat.le_refl _), if_true, getElem?_split, Nat.sub_self,
      cInsert_ok P [] 0 x (Nat.le_refl _) (Nat.lt_trans Nat.zero_lt_one hm), modifyChunk_split, List.take_nil,
      List.drop_nil, List.nil_append, List.length_singleton, if_neg (Nat.ne_of_lt hm)]
    refine ⟨_, rfl, rinv_split.mpr ⟨hI, ⟨Nat.le_refl _, hm⟩, nofun⟩, ?_⟩
    rw [List.insertIdx_length_self, flat_split]; rfl

/-! ### two positions: in one chunk, or in two with whole chunks between -/

theorem append_cons_assoc (pre : Chunks α) (cl : List α) (mid : Chunks α) (cr : List α) (post : Chunks α) :
    pre ++ cl :: (mid ++ cr :: post) = (pre ++ cl :: mid) ++ cr :: post :=
  (List.append_assoc pre (cl :: mid) (cr :: post)).symm

theorem exists_split2 (r : Chunks α) (i j : Nat) (hij : i ≤ j) (hj : j < (flat r).length) :
    (∃ pre ch post p q, r = pre ++ ch :: post ∧ i = (flat pre).length + p ∧ j = (flat pre).length + q ∧
      p ≤ q ∧ q < ch.length) ∨
    (∃ pre cl mid cr post p q, r = pre ++ cl :: (mid ++ cr :: post) ∧ i = (flat pre).length + p ∧ p < cl.length ∧
      j = (flat (pre ++ cl :: mid)).length + q ∧ q < cr.length) := by
  obtain ⟨A, cr, post, q, rfl, rfl, hq⟩ := exists_split r j hj
  by_cases h : (flat A).length ≤ i
  · obtain ⟨p, rfl⟩ := Nat.exists_eq_add_of_le h
    exact .inl ⟨A, cr, post, p, q, rfl, rfl, rfl, Nat.le_of_add_le_add_left hij, hq⟩
  · obtain ⟨pre, cl, mid, p, rfl, rfl, hp⟩ := exists_split A i (Nat.not_le.mp h)
    exact .inr ⟨pre, cl, mid, cr, post, p, q, (append_cons_assoc ..).symm, rfl, hp, rfl, hq⟩

theorem keyWithCountFromPrev_split2 {pre : Chunks α} {cl : List α} {mid : Chunks α} {cr : List α} {post : Chunks α}
    {q : Nat} (hq : q < cr.length) :
    keyWithCountFromPrev (pre ++ cl :: (mid ++ cr :: post)) ((flat (pre ++ cl :: mid)).length + q) pre.length
      (flat pre).length = ((pre ++ cl :: mid).length, (flat (pre ++ cl :: mid)).length) := by
  rw [keyWithCountFromPrev_split (by rw [flat_split, List.length_append]; omega), append_cons_assoc,
    keyWithCount_split hq]

theorem getElem?_split2 (pre : Chunks α) (cl : List α) (mid : Chunks α) (cr : List α) (post : Chunks α) :
    (pre ++ cl :: (mid ++ cr :: post))[(pre ++ cl :: mid).length]? = some cr := by
  rw [append_cons_assoc, getElem?_split]

theorem modifyChunk_split2 (pre : Chunks α) (cl cl' : List α) (mid : Chunks α) (cr cr' : List α) (post : Chunks α) :
    modifyChunk (modifyChunk (pre ++ cl :: (mid ++ cr :: post)) pre.length cl') (pre ++ cl :: mid).length cr'
      = pre ++ cl' :: (mid ++ cr' :: post) := by
  rw [modifyChunk_split, append_cons_assoc, append_cons_assoc,
    show (pre ++ cl :: mid).length = (pre ++ cl' :: mid).length by simp only [List.length_append, List.length_cons],
    modifyChunk_split]

theorem dropChunks_split (pre : Chunks α) (cl c : List α) (mid post : Chunks α) :
    dropChunks (pre ++ cl :: (mid ++ post)) (pre.length + 1) (pre ++ c :: mid).length = pre ++ cl :: post := by
  rw [dropChunks, List.append_cons pre cl (mid ++ post), List.take_left' (by simp), ← List.append_assoc,
    List.drop_left' (by simp), ← List.append_cons]

theorem drain_refines (P : Params) (hw : PWF P) (r : Chunks α) (l h : Nat) (hI : RInv P r)
    (hlh : l ≤ h) (hh : h < (flat r).length) :
    ∃ r', drain P r l h = .ok r' ∧ RInv P r' ∧ flat r' = (flat r).take l ++ (flat r).drop (h + 1) := by
  rcases exists_split2 r l h hlh hh with ⟨pre, ch, post, p, q, rfl, rfl, rfl, hpq, hq⟩ |
    ⟨pre, cl, mid, cr, post, p, q, rfl, rfl, hp, rfl, hq⟩
  · obtain ⟨hpre, hch, hpost⟩ := rinv_split.mp hI
    have hp := Nat.lt_of_le_of_lt hpq hq
    simp only [drain, keyWithCount_split hp, keyWithCountFromPrev_split (Nat.le_add_right _ _),
      keyWithCount_split hq, if_true, getElem?_split, Nat.add_sub_cancel_left, modifyChunk_split]
    have hsub := (List.Sublist.refl (ch.take p)).append (List.drop_sublist_drop_left ch (Nat.le_succ_of_le hpq))
    rw [List.take_append_drop] at hsub
    have hlen := Nat.lt_of_le_of_lt hsub.length_le hch.2
    refine ⟨_, rfl, rebalance_if P hw _ _ _ ?_ (fun hnu => ?_) ?_⟩
    · exact (bounded_split.mpr ⟨hpre.bounded, hlen, hpost.bounded⟩).eraseIdx _
    · exact rinv_split.mpr ⟨hpre, ⟨Nat.zero_lt_of_lt (Nat.not_le.mp hnu), hlen⟩, hpost⟩
    · rw [take_flat_split (Nat.le_of_lt hp), Nat.add_assoc, drop_flat_split hq, flat_split]
      simp only [List.append_assoc]
  · obtain ⟨hpre, hcl, hr⟩ := rinv_split.mp hI
    obtain ⟨hmid, hcr, hpost⟩ := rinv_split.mp hr
    have hk := length_lt_split pre cl mid
    simp only [drain, keyWithCount_split hp, keyWithCountFromPrev_split2 hq, if_neg (Nat.ne_of_lt hk),
      getElem?_split, getElem?_split2, Nat.add_sub_cancel_left, if_neg (Nat.not_lt.mpr hk), modifyChunk_split2,
      dropChunks_split]
    have hl := Nat.lt_of_le_of_lt (List.length_take_le' p cl) hcl.2
    have hr := Nat.lt_of_le_of_lt (List.drop_sublist (q + 1) cr).length_le hcr.2
    refine ⟨_, rfl, rebalance_if P hw _ _ _ ?_ (fun hnu => ?_) ?_⟩
    · exact (bounded_split.mpr ⟨hpre.bounded, hl, List.forall_mem_cons.mpr ⟨hr, hpost.bounded⟩⟩).eraseIdx _
    · obtain ⟨hul, hur⟩ := not_or.mp hnu
      exact rinv_split.mpr ⟨hpre, ⟨Nat.zero_lt_of_lt (Nat.not_le.mp hul), hl⟩,
        List.forall_mem_cons.mpr ⟨⟨Nat.zero_lt_of_lt (Nat.not_le.mp hur), hr⟩, hpost⟩⟩
    · rw [take_flat_split (Nat.le_of_lt hp), append_cons_assoc, Nat.add_assoc, drop_flat_split hq, flat_split,
        flat_cons]
      simp only [List.append_assoc]

theorem remove_eq_drain (P : Params) (r : Chunks α) (i : Nat) (hi : i < (flat r).length) :
    remove P r i = drain P r i i := by
  obtain ⟨pre, ch, post, p, rfl, rfl, hp⟩ := exists_split r i hi
  simp only [remove, drain, keyWithCount_split hp, keyWithCountFromPrev_split (Nat.le_add_right _ _), if_true,
    getElem?_split, Nat.add_sub_cancel_left, cRemove, if_pos hp]

theorem remove_refines (P : Params) (hw : PWF P) (r : Chunks α) (i : Nat) (hI : RInv P r)
    (hi : i < (flat r).length) :
    ∃ r', remove P r i = .ok r' ∧ RInv P r' ∧ flat r' = (flat r).eraseIdx i := by
  rw [remove_eq_drain P r i hi, List.eraseIdx_eq_take_drop_succ]
  exact drain_refines P hw r i i hI (Nat.le_refl _) hi

/-- exchange two positions of a list (the reference semantics of `Vec::swap`) -/
def listSwap (L : List α) (a b : Nat) : List α :=
  match L[a]?, L[b]? with
  | some x, some y => (L.set a y).set b x
  | _, _ => L

theorem listSwap_of_lt (L : List α) (a b : Nat) (ha : a < L.length) (hb : b < L.length) :
    listSwap L a b = (L.set a L[b]).set b L[a] := by
  rw [listSwap, List.getElem?_eq_getElem ha, List.getElem?_eq_getElem hb]

theorem listSwap_comm (L : List α) (a b : Nat) : listSwap L a b = listSwap L b a := by
  unfold listSwap
  cases ha : L[a]? with
  | none => cases hb : L[b]? <;> rfl
  | some x =>
    cases hb : L[b]? with
    | none => rfl
    | some y =>
      show (L.set a y).set b x = (L.set b x).set a y
      by_cases e : a = b
      · subst e; rw [ha] at hb; cases hb; rfl
      · exact List.set_comm _ _ e

theorem swap_comm (r : Chunks α) (a b : Nat) : swap r a b = swap r b a := by
  rw [swap, swap, Nat.min_comm, Nat.max_comm]

theorem swap_refines (P : Params) (r : Chunks α) (a b : Nat) (hI : RInv P r)
    (ha : a < (flat r).length) (hb : b < (flat r).length) :
    ∃ r', swap r a b = .ok r' ∧ RInv P r' ∧ flat r' = listSwap (flat r) a b := by
  have key : ∀ a b, a ≤ b → b < (flat r).length →
      ∃ r', swap r a b = .ok r' ∧ RInv P r' ∧ flat r' = listSwap (flat r) a b := by
    intro a b hab hb
    rw [listSwap_of_lt _ _ _ (Nat.lt_of_le_of_lt hab hb) hb]
    rcases exists_split2 r a b hab hb with ⟨pre, ch, post, p, q, rfl, rfl, rfl, hpq, hq⟩ |
      ⟨pre, cl, mid, cr, post, p, q, rfl, rfl, hp, rfl, hq⟩
    · have hp := Nat.lt_of_le_of_lt hpq hq
      simp only [swap, Nat.min_eq_left hab, Nat.max_eq_right hab, keyWithCount_split hp,
        keyWithCountFromPrev_split (Nat.le_add_right _ _), keyWithCount_split hq, if_true, getElem?_split,
        Nat.add_sub_cancel_left]
      by_cases hee : p = q
      · subst hee
        refine ⟨_, by rw [if_pos rfl], hI, ?_⟩
        rw [List.set_set, List.set_getElem_self]
      · simp only [if_neg (fun e => hee (Nat.add_left_cancel e)), List.getElem?_eq_getElem hp,
          List.getElem?_eq_getElem hq, modifyChunk_split]
        refine ⟨_, rfl, ?_, ?_⟩
        · rw [rinv_split, List.length_set, List.length_set]; exact rinv_split.mp hI
        · rw [getElem_flat_split hp, getElem_flat_split hq, set_flat_split hp,
            set_flat_split (by rw [List.length_set]; exact hq)]
    · obtain ⟨hpre, hcl, hr⟩ := rinv_split.mp hI
      obtain ⟨hmid, hcr, hpost⟩ := rinv_split.mp hr
      simp only [swap, Nat.min_eq_left hab, Nat.max_eq_right hab, keyWithCount_split hp,
        keyWithCountFromPrev_split2 hq, if_neg (Nat.ne_of_lt (length_lt_split pre cl mid)), getElem?_split,
        getElem?_split2, Nat.add_sub_cancel_left, List.getElem?_eq_getElem hp, List.getElem?_eq_getElem hq,
        modifyChunk_split2]
      refine ⟨_, rfl, ?_, ?_⟩
      · rw [rinv_split, List.length_set]; refine ⟨hpre, hcl, ?_⟩
        rw [rinv_split, List.length_set]; exact ⟨hmid, hcr, hpost⟩
      · rw [getElem_flat_split hp, set_flat_split hp]
        simp only [append_cons_assoc]
        rw [getElem_flat_split hq,
          show (flat (pre ++ cl :: mid)).length = (flat (pre ++ cl.set p cr[q] :: mid)).length by
            simp only [flat_split, List.length_append, List.length_set],
          set_flat_split hq]
  by_cases hab : a ≤ b
  · exact key a b hab hb
  · rw [swap_comm, listSwap_comm]; exact key b a (Nat.le_of_not_le hab) ha

/-! ### borrowed iteration: the state `⟨key, inKey⟩` is a position -/

theorem iterCollect_split (pre : Chunks α) (ch : List α) (post : Chunks α) (hne : ∀ c ∈ post, c ≠ []) (p fuel : Nat)
    (hp : p < ch.length) (hf : (ch.drop p ++ flat post).length < fuel) :
    iterCollect (pre ++ ch :: post) fuel ⟨pre.length, p, false⟩ = .ok (ch.drop p ++ flat post) := by
  induction fuel generalizing pre ch post p with
  | zero => nomatch hf
  | succ fuel ih =>
    rw [← List.getElem_cons_drop hp] at hf ⊢
    simp only [iterCollect, iterNext, Bool.false_eq_true, if_false, getElem?_split, List.getElem?_eq_getElem hp]
    by_cases hlast : p + 1 < ch.length
    · simp only [if_neg (Nat.not_le.mpr hlast), decide_eq_false (Nat.not_le.mpr (length_lt_split pre ch post)),
        ih pre ch post hne (p + 1) hlast (Nat.lt_of_succ_lt_succ hf), List.cons_append]
    · rw [List.drop_of_length_le (Nat.not_lt.mp hlast)] at hf ⊢
      simp only [if_pos (Nat.not_lt.mp hlast), List.nil_append, List.cons_append]
      cases post with
      | nil =>
        cases fuel
        · rfl
        · simp [iterCollect, iterNext]
      | cons c post =>
        have hc : 0 < c.length := List.length_pos_iff.mpr (hne c (List.mem_cons_self ..))
        have := ih (pre ++ [ch]) c post (fun d hd => hne d (List.mem_cons_of_mem _ hd)) 0 hc (Nat.lt_of_succ_lt_succ hf)
        rw [List.length_append, List.length_singleton, List.append_assoc, List.singleton_append, List.drop_zero] at this
        have hk : ¬ pre.length + 1 ≥ (pre ++ ch :: c :: post).length := by simp
        simp only [decide_eq_false hk, this, flat_cons]

theorem iter_eq_flat (P : Params) (r : Chunks α) (hI : RInv P r) : iter r = .ok (flat r) := by
  cases r with
  | nil => rfl
  | cons c t =>
    obtain ⟨hc, ht⟩ := List.forall_mem_cons.mp hI
    have hemp : c.isEmpty = false := List.isEmpty_eq_false_iff.mpr (List.length_pos_iff.mp hc.1)
    have := iterCollect_split [] c t (fun d hd => List.length_pos_iff.mp (ht d hd).1) 0 (len (c :: t) + 1) hc.1
      (by rw [len_eq]; exact Nat.lt_succ_self _)
    simpa [iter, iterInit, hemp] using this


end Rope
