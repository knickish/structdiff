import SdModel.Lemmas.WireBridge

/-!
Towards "`Derive.toWire` is DEFINED on every diff the derive model computes for a struct type over flat element types
when the target value is flat-shaped" (the hypothesis `toWire es = some w` of `C14.derive_entries_survive`; concluded
in `Lemmas/WireTotalMap.lean`): every entry of every template but the recursive map is expressible.
-/
namespace Derive
open Codec

theorem mapM_cons_isSome {α β : Type} (f : α → Option β) (a : α) (l : List α) :
    ((a :: l).mapM f).isSome = ((f a).isSome && (l.mapM f).isSome) := by
  simp only [List.mapM_cons, Option.bind_eq_bind, Option.isSome_bind, Option.pure_def, Option.isSome_some, Option.any_true]
  cases f a <;> rfl

theorem mapM_isSome_of_forall {α β : Type} (f : α → Option β) (l : List α) (h : ∀ x ∈ l, (f x).isSome = true) :
    (l.mapM f).isSome = true := by
  induction l with
  | nil => rfl
  | cons x t ih =>
    rw [mapM_cons_isSome, h x List.mem_cons_self, ih (fun y hy => h y (List.mem_cons_of_mem _ hy))]; rfl

theorem structSem_diff_cases (fs : Fields) (a b : Val) :
    ((structSem fs).diff a b = [] ∧ (structSem fs).diffRef a b = []) ∨
      ∃ x y, a = .strct x ∧ b = .strct y ∧ (structSem fs).diff a b = sdiffG (·.diff) fs 0 x y ∧
        (structSem fs).diffRef a b = sdiffG (·.diffRef) fs 0 x y := by
  dsimp only [structSem]
  split
  · exact .inr ⟨_, _, rfl, rfl, rfl, rfl⟩
  · exact .inl ⟨rfl, rfl⟩

def AllPlain : FieldTys → Prop
  | .nil => True
  | .cons _ k r => k = .plain ∧ AllPlain r

/-- every value is a `u32` or an `Option<u32>` -/
def FlatVals : Vals → Prop
  | .nil => True
  | .cons v r => (pvOfVal v).isSome = true ∧ FlatVals r

/-- The one induction over the generated struct diff: it maps entrywise under `g` when every entry an unskipped field
can produce does (`hg`). `g` is `leafEntryToWire` (nested level) or `entryToWire` (struct level), `sel` is `·.diff` or
`·.diffRef`, `Q` the per-field condition (`plain` with a flat value; `FieldFlatAll`), and `S` the recursive predicate on
(field types, target values) that unrolls field by field to `Q` (`AllPlain ∧ FlatVals`; `StructFlatAll`). -/
theorem sdiffG_mapM_isSome {β : Type} (g : Entry → Option β) (sel : FieldSem → Val → Val → Option Payload)
    (Q : Kind → Val → Prop) (hg : ∀ k a b, Q k b → ∀ i p, sel (semKind k) a b = some p → (g (i, p)).isSome = true)
    (S : FieldTys → Vals → Prop) (hS : ∀ skip k r b bs, S (.cons skip k r) (.cons b bs) → (skip = true ∨ Q k b) ∧ S r bs) :
    ∀ (fs : FieldTys) (i : Nat) (x y : Vals), S fs y → ((sdiffG sel (semFields fs) i x y).mapM g).isSome = true
  | .nil, i, x, y, _ => by cases x <;> cases y <;> rfl
  | .cons skip k r, i, .nil, y, _ => rfl
  | .cons skip k r, i, .cons a as, .nil, _ => rfl
  | .cons skip k r, i, .cons a as, .cons b bs, h => by
    obtain ⟨h1, h2⟩ := hS skip k r b bs h
    have ih := sdiffG_mapM_isSome g sel Q hg S hS r (i + 1) as bs h2
    rw [semFields, sdiffG]
    split
    · exact ih
    · rename_i hs
      cases hd : sel (semKind k) a b with
      | none => exact ih
      | some p => rw [mapM_cons_isSome, ih, hg k a b (h1.resolve_left hs) i p hd]; rfl

theorem leaf_sdiff_toWire (sel : FieldSem → Val → Val → Option Payload)
    (hsel : ∀ a b, sel plainField a b = none ∨ sel plainField a b = some (.val b)) :
    ∀ (fs : FieldTys), AllPlain fs → ∀ (i : Nat) (x y : Vals), FlatVals y →
      (leafToWire (sdiffG sel (semFields fs) i x y)).isSome = true := by
  intro fs hf i x y hy
  refine sdiffG_mapM_isSome leafEntryToWire sel (fun k b => k = .plain ∧ (pvOfVal b).isSome = true) ?_
    (fun fs y => AllPlain fs ∧ FlatVals y) (fun _ _ _ _ _ h => ⟨.inr ⟨h.1.1, h.2.1⟩, h.1.2, h.2.2⟩) fs i x y ⟨hf, hy⟩
  rintro k a b ⟨rfl, hb⟩ i p hp
  rcases hsel a b with h0 | h0 <;> rw [semKind, h0] at hp <;> cases hp
  exact Option.isSome_map.trans hb

theorem plain_diff_cases (a b : Val) : plainField.diff a b = none ∨ plainField.diff a b = some (.val b) := by
  simp only [plainField]; split <;> simp
theorem plain_diffRef_cases (a b : Val) : plainField.diffRef a b = none ∨ plainField.diffRef a b = some (.val b) :=
  plain_diff_cases a b

/-- the nested diff (owned or borrowed) of a flat struct type is expressible on the wire when the target is flat -/
theorem leaf_diff_toWire (fs : FieldTys) (h : AllPlain fs) (a b : Val) (hb : ∀ y, b = .strct y → FlatVals y) :
    (leafToWire ((semTy (.struct fs)).diff a b)).isSome = true ∧ (leafToWire ((semTy (.struct fs)).diffRef a b)).isSome = true := by
  rw [semTy]
  rcases structSem_diff_cases (semFields fs) a b with ⟨h1, h2⟩ | ⟨x, y, _, rfl, h1, h2⟩ <;> rw [h1, h2]
  · exact ⟨rfl, rfl⟩
  · exact ⟨leaf_sdiff_toWire (·.diff) plain_diff_cases fs h 0 x y (hb y rfl),
      leaf_sdiff_toWire (·.diffRef) plain_diffRef_cases fs h 0 x y (hb y rfl)⟩

theorem flatVals_toWire : ∀ (y : Vals), FlatVals y → (y.toList.mapM pvOfVal).isSome = true
  | .nil, _ => rfl
  | .cons v r, h => by
    rw [Vals.toList, mapM_cons_isSome, h.1, flatVals_toWire r h.2]; rfl

/-- what the (kind, target value) of a field must be for its entry to be expressible in the wire model -/
def FieldFlat : Kind → Val → Prop
  | .plain, b => (pvOfVal b).isSome = true
  | .recurse (.struct fs), b => AllPlain fs ∧ ∀ y, b = .strct y → FlatVals y
  | .recurseOpt (.struct fs), b => AllPlain fs ∧ ∀ v, b = .osome v → ∃ y, v = .strct y ∧ FlatVals y
  | .ordered, _ => True
  | .unordArr, _ => True
  | .map _, _ => True
  | _, _ => False

def StructFlat : FieldTys → Vals → Prop
  | .nil, _ => True
  | .cons skip k r, .cons b bs => (skip = true ∨ FieldFlat k b) ∧ StructFlat r bs
  | .cons _ _ _, .nil => True

theorem field_entry_toWire (k : Kind) (a b : Val) (h : FieldFlat k b) (i : Nat) (p : Payload)
    (hp : (semKind k).diff a b = some p) : (entryToWire (i, p)).isSome = true := by
  fun_cases FieldFlat k b <;> simp only [FieldFlat] at h
  case case1 =>
    cases (Option.ite_none_left_eq_some.mp hp).2
    exact Option.isSome_map.trans h
  case case2 fs =>
    cases (Option.ite_none_left_eq_some.mp hp).2
    exact Option.isSome_map.trans (leaf_diff_toWire fs h.1 a b h.2).1
  case case3 fs =>
    dsimp only [semKind, recurseOptField] at hp
    split at hp
    · rename_i x y
      cases (Option.ite_none_left_eq_some.mp hp).2
      obtain ⟨yy, rfl, hy⟩ := h.2 y rfl
      exact Option.isSome_map.trans (leaf_diff_toWire fs h.1 x (.strct yy) (fun z hz => by cases hz; exact hy)).1
    · cases hp; rfl
    · rename_i y
      cases hp
      obtain ⟨yy, rfl, hy⟩ := h.2 y rfl
      exact Option.isSome_map.trans (flatVals_toWire yy hy)
    · cases hp
  case case4 | case5 | case6 =>
    obtain ⟨s, _, rfl⟩ := Option.map_eq_some_iff.mp hp; rfl

end Derive
