import SdModel.Lemmas.DeriveKinds

/-!
The knot: relations for every type descriptor by structural recursion, and the proof that the generated
semantics of EVERY derivable type (any nesting depth, any mix of templates, any skip pattern) satisfies `TySpec`.
-/
namespace Derive

mutual
def relTy : Ty → TyRel
  | .struct fs => structRel (relFields fs)
  | .enum => enumRel
def relFields : FieldTys → FS
  | .nil => []
  | .cons skip k rest => (skip, semKind k, relKind k) :: relFields rest
def relKind : Kind → FieldRel
  | .plain => plainRel
  | .recurse t => recurseRel (relTy t)
  | .recurseOpt t => roptRel (relTy t)
  | .ordered => orderedRel
  | .unordArr => unordRel
  | .map _ => mapRel
  | .recMap ko t => recMapRel ko (relTy t)
end

theorem fieldsOf_rel : ∀ fs : FieldTys, fieldsOf (relFields fs) = semFields fs
  | .nil => rfl
  | .cons skip k rest => congrArg ((skip, semKind k) :: ·) (fieldsOf_rel rest)

theorem semTy_struct_diff (fts : FieldTys) (x y : Vals) :
    (semTy (.struct fts)).diff (.strct x) (.strct y) = sdiffG (·.diff) (fieldsOf (relFields fts)) 0 x y := by
  rw [fieldsOf_rel]; rfl

theorem semTy_struct_apply (fts : FieldTys) (x : Vals) (es : Entries) :
    (semTy (.struct fts)).apply (.strct x) es = (sapplyG (fieldsOf (relFields fts)) 0 x es).map .strct := by
  rw [fieldsOf_rel]; exact structSem_apply _ x es

mutual
theorem spec_ty : ∀ t : Ty, TySpec (semTy t) (relTy t)
  | .struct fs => by
    rw [semTy, relTy, ← fieldsOf_rel]
    exact struct_spec _ (spec_fields fs)
  | .enum => enum_spec
theorem spec_fields : ∀ fs : FieldTys, ∀ x ∈ relFields fs, FieldSpec x.2.1 x.2.2
  | .nil => nofun
  | .cons _ k rest => List.forall_mem_cons.mpr ⟨spec_kind k, spec_fields rest⟩
theorem spec_kind : ∀ k : Kind, FieldSpec (semKind k) (relKind k)
  | .plain => plain_spec
  | .recurse t => recurse_spec _ _ (spec_ty t)
  | .recurseOpt t => ropt_spec _ _ (spec_ty t)
  | .ordered => ordered_spec
  | .unordArr => unord_spec
  | .map ko => map_spec ko
  | .recMap ko t => recmap_spec ko _ _ (spec_ty t)
end

end Derive
