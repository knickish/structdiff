import SdModel.Model.Lev

/-! The table the model builds is the recursively specified Levenshtein table (`cell`); backtracking with the early
exit and the divide-and-conquer driver yield scripts that are correct (`Rewrites`) for an arbitrary (lawless) `eq`. -/
namespace Lev
open Script
variable {α : Type}

theorem suffix_reverse_eq (l tr : List α) (h : tr <:+ l.reverse) : tr = (l.take tr.length).reverse := by
  rw [List.reverse_take, ← List.length_reverse (as := l)]
  exact List.suffix_iff_eq_drop.mp h

/-- pointwise: the result element is the target element itself or an `eq`-equal source element -/
inductive PW (eq : α → α → Bool) : List α → List α → Prop
  | nil : PW eq [] []
  | cons {r x rs xs} : (r = x ∨ eq x r = true) → PW eq rs xs → PW eq (r :: rs) (x :: xs)

theorem PW.append {eq : α → α → Bool} {a b c d : List α} (h1 : PW eq a b) (h2 : PW eq c d) : PW eq (a ++ c) (b ++ d) := by
  induction h1 with
  | nil => exact h2
  | cons h _ ih => exact .cons h ih

theorem PW.refl_ (eq : α → α → Bool) (a : List α) : PW eq a a := by
  induction a with
  | nil => exact .nil
  | cons x xs ih => exact .cons (.inl rfl) ih

theorem PW.length_eq {eq : α → α → Bool} {a b : List α} (h : PW eq a b) : a.length = b.length := by
  induction h with
  | nil => rfl
  | cons _ _ ih => exact congrArg Nat.succ ih

/-- spec-level table cell for the REVERSED prefixes `tr` of the target and `sr` of the source, for a cell rule -/
def cellG (mk : CellRule α) (eq : α → α → Bool) (C : Costs) : List α → List α → Cell
  | [], sr => ⟨.del, sr.length * C.D⟩
  | _ :: tr, [] => ⟨.ins, (tr.length + 1) * C.I⟩
  | x :: tr, y :: sr => mk eq C x y (cellG mk eq C tr sr) (cellG mk eq C tr (y :: sr)) (cellG mk eq C (x :: tr) sr)
termination_by tr sr => tr.length + sr.length

def cell (eq : α → α → Bool) (C : Costs) (tr sr : List α) : Cell := cellG mkCell eq C tr sr

theorem cellG_nil (mk : CellRule α) (eq : α → α → Bool) (C : Costs) (sr : List α) :
    cellG mk eq C [] sr = ⟨.del, sr.length * C.D⟩ := by
  rw [cellG]

theorem cellG_cons_nil (mk : CellRule α) (eq : α → α → Bool) (C : Costs) (x : α) (tr : List α) :
    cellG mk eq C (x :: tr) [] = ⟨.ins, (tr.length + 1) * C.I⟩ := by
  rw [cellG]

theorem cellG_cons_cons (mk : CellRule α) (eq : α → α → Bool) (C : Costs) (x y : α) (tr sr : List α) :
    cellG mk eq C (x :: tr) (y :: sr)
      = mk eq C x y (cellG mk eq C tr sr) (cellG mk eq C tr (y :: sr)) (cellG mk eq C (x :: tr) sr) := by
  rw [cellG]

theorem cell_cons_cons (eq : α → α → Bool) (C : Costs) (x y : α) (tr sr : List α) :
    cell eq C (x :: tr) (y :: sr) = mkCell eq C x y (cell eq C tr sr) (cell eq C tr (y :: sr)) (cell eq C (x :: tr) sr) :=
  cellG_cons_cons mkCell eq C x y tr sr

theorem cellG_nil_right_cost (mk : CellRule α) (eq : α → α → Bool) (C : Costs) (tr : List α) :
    (cellG mk eq C tr []).cost = tr.length * C.I := by
  cases tr <;> simp [cellG_nil, cellG_cons_nil]

/-- what each tag says about neighbouring costs -/
theorem mkCell_cost (eq : α → α → Bool) (C : Costs) (x y : α) (diag up left : Cell) :
    (mkCell eq C x y diag up left).cost =
      match (mkCell eq C x y diag up left).tag with
      | .noop => diag.cost
      | .rep => diag.cost + C.R
      | .ins => up.cost + C.I
      | .del => left.cost + C.D := by
  unfold mkCell
  grind

theorem eq_of_mkCell_noop (eq : α → α → Bool) (C : Costs) (x y : α) (diag up left : Cell)
    (h : (mkCell eq C x y diag up left).tag = .noop) : eq x y = true := by
  unfold mkCell at h
  grind

theorem mkCell_noop (eq : α → α → Bool) (C : Costs) (x y : α) (d u l : Cell) (h : eq x y = true) :
    mkCell eq C x y d u l = ⟨.noop, d.cost⟩ :=
  if_pos h

theorem mkCell_zero (eq : α → α → Bool) {C : Costs} (hC : 1 ≤ C.D ∧ 1 ≤ C.R ∧ 1 ≤ C.I) (x y : α) (d u l : Cell)
    (h : (mkCell eq C x y d u l).cost = 0) : eq x y = true ∧ d.cost = 0 := by
  obtain ⟨hD, hR, hI⟩ := hC
  cases ht : (mkCell eq C x y d u l).tag <;> rw [mkCell_cost, ht] at h
  · exact ⟨eq_of_mkCell_noop eq C x y d u l ht, h⟩
  · exact absurd (Nat.eq_zero_of_add_eq_zero_left h) (Nat.ne_of_gt hR)
  · exact absurd (Nat.eq_zero_of_add_eq_zero_left h) (Nat.ne_of_gt hI)
  · exact absurd (Nat.eq_zero_of_add_eq_zero_left h) (Nat.ne_of_gt hD)

theorem mkCellLR_eq (eq : α → α → Bool) (C : Costs) (x y : α) (d u l : Cell) :
    mkCellLR eq C x y d u l = mkCell eq C x y d l u := rfl

/-- what the arguments about cost 0 need of a cell rule -/
structure ZeroRule (mk : CellRule α) : Prop where
  noop : ∀ (eq : α → α → Bool) (C : Costs) x y d u l, eq x y = true → mk eq C x y d u l = ⟨.noop, d.cost⟩
  zero : ∀ (eq : α → α → Bool) {C : Costs}, 1 ≤ C.D ∧ 1 ≤ C.R ∧ 1 ≤ C.I → ∀ x y d u l,
    (mk eq C x y d u l).cost = 0 → eq x y = true ∧ d.cost = 0

theorem zeroRule_mkCell : ZeroRule (α := α) mkCell := ⟨mkCell_noop, mkCell_zero⟩

theorem zeroRule_mkCellLR : ZeroRule (α := α) mkCellLR where
  noop eq C x y d u l h := (mkCellLR_eq eq C x y d u l).trans (mkCell_noop eq C x y d l u h)
  zero eq C hC x y d u l h := mkCell_zero eq hC x y d l u (mkCellLR_eq eq C x y d u l ▸ h)

theorem cellG_zero {mk : CellRule α} (hmk : ZeroRule mk) (eq : α → α → Bool) {C : Costs} (hC : 1 ≤ C.D ∧ 1 ≤ C.R ∧ 1 ≤ C.I) :
    ∀ (tr sr : List α), (cellG mk eq C tr sr).cost = 0 → PW eq sr.reverse tr.reverse := by
  intro tr
  induction tr with
  | nil =>
    intro sr h
    rw [cellG_nil] at h
    obtain rfl : sr = [] := List.eq_nil_of_length_eq_zero ((Nat.mul_eq_zero.mp h).resolve_right (Nat.ne_of_gt hC.1))
    exact .nil
  | cons x tr ih =>
    intro sr h
    cases sr with
    | nil =>
      rw [cellG_cons_nil] at h
      exact absurd h (Nat.mul_ne_zero (Nat.succ_ne_zero _) (Nat.ne_of_gt hC.2.2))
    | cons y sr =>
      rw [cellG_cons_cons] at h
      obtain ⟨he, hd⟩ := hmk.zero eq hC x y _ _ _ h
      simp only [List.reverse_cons]
      exact (ih sr hd).append (.cons (.inr he) .nil)

theorem cell_zero (eq : α → α → Bool) (C : Costs) (hD : 1 ≤ C.D) (hR : 1 ≤ C.R) (hI : 1 ≤ C.I) :
    ∀ (tr sr : List α), (cell eq C tr sr).cost = 0 → PW eq sr.reverse tr.reverse :=
  cellG_zero zeroRule_mkCell eq ⟨hD, hR, hI⟩

/-- `f (y₁ :: pre), f (y₂ :: y₁ :: pre), …` for `ys = [y₁, y₂, …]`: behind `f pre`, a row of the table (cells along the
source) or the table itself (rows along the target) -/
def along {β : Type} (f : List α → β) : List α → List α → List β
  | _, [] => []
  | pre, y :: ys => f (y :: pre) :: along f (y :: pre) ys

theorem along_get {β : Type} (f : List α → β) (pre ys : List α) (j : Nat) :
    (f pre :: along f pre ys)[j]? = if j ≤ ys.length then some (f ((ys.take j).reverse ++ pre)) else none := by
  induction ys generalizing pre j with
  | nil => cases j <;> rfl
  | cons y ys ih =>
    cases j
    · rfl
    · simp [along, ih]

theorem along_length {β : Type} (f : List α → β) (pre ys : List α) : (along f pre ys).length = ys.length := by
  induction ys generalizing pre with
  | nil => rfl
  | cons y ys ih => exact congrArg Nat.succ (ih _)

theorem scanRowG_along (mk : CellRule α) (eq : α → α → Bool) (C : Costs) (x : α) (tr ys pre : List α) :
    scanRowG mk eq C x (cellG mk eq C tr pre) (cellG mk eq C (x :: tr) pre) (along (cellG mk eq C tr) pre ys) ys
      = along (cellG mk eq C (x :: tr)) pre ys := by
  induction ys generalizing pre with
  | nil => rfl
  | cons y ys ih => simp only [along, scanRowG, ← cellG_cons_cons, ih]

theorem rowOfG_along (mk : CellRule α) (eq : α → α → Bool) (C : Costs) (s tr : List α) :
    rowOfG mk eq C s tr = cellG mk eq C tr [] :: along (cellG mk eq C tr) [] s := by
  induction tr with
  | nil =>
    apply List.ext_getElem?
    intro j
    rw [along_get]
    simp only [rowOfG, row0, List.getElem?_map, cellG_nil]
    by_cases h : j ≤ s.length
    · simp [h, Nat.lt_succ_of_le h, Nat.min_eq_left h]
    · simp [h, mt Nat.le_of_lt_succ h]
  | cons x tr ih =>
    have h0 : (⟨.ins, (cellG mk eq C tr []).cost + C.I⟩ : Cell) = cellG mk eq C (x :: tr) [] := by
      rw [cellG_nil_right_cost, cellG_cons_nil, Nat.succ_mul]
    rw [rowOfG, ih, nextRowG, h0, scanRowG_along]

theorem rowOfG_get {mk : CellRule α} {eq : α → α → Bool} {C : Costs} {s tr : List α} {j : Nat} (h : j ≤ s.length) :
    (rowOfG mk eq C s tr)[j]? = some (cellG mk eq C tr (s.take j).reverse) := by
  rw [rowOfG_along, along_get, if_pos h, List.append_nil]

theorem rowOfG_length (mk : CellRule α) (eq : α → α → Bool) (C : Costs) (s tr : List α) :
    (rowOfG mk eq C s tr).length = s.length + 1 := by
  rw [rowOfG_along, List.length_cons, along_length]

theorem rowOf_get {eq : α → α → Bool} {C : Costs} {s tr : List α} {j : Nat} (h : j ≤ s.length) :
    (rowOf eq C s tr)[j]? = some (cell eq C tr (s.take j).reverse) :=
  rowOfG_get h

theorem tableRows_along (eq : α → α → Bool) (C : Costs) (s t acc : List α) :
    tableRows eq C s t (rowOf eq C s acc) = rowOf eq C s acc :: along (rowOf eq C s) acc t := by
  induction t generalizing acc with
  | nil => rfl
  | cons x t ih => exact congrArg _ (ih (x :: acc))

theorem tableRows_get {eq : α → α → Bool} {C : Costs} {s t acc : List α} {i : Nat} (h : i ≤ t.length) :
    (tableRows eq C s t (rowOf eq C s acc))[i]? = some (rowOf eq C s ((t.take i).reverse ++ acc)) := by
  rw [tableRows_along, along_get, if_pos h]

theorem lookup_fullTable (eq : α → α → Bool) (C : Costs) (t s : List α) (i j : Nat) (hi : i ≤ t.length) (hj : j ≤ s.length) :
    lookup (fullTable eq C t s) i j = cell eq C (t.take i).reverse (s.take j).reverse := by
  rw [lookup, fullTable, show row0 C s = rowOf eq C s [] from rfl, tableRows_get hi, List.append_nil]
  simp only [rowOf_get hj, Option.getD_some]

/-- in the form `bt_correct` asks for -/
theorem lookup_fullTable_suffix (eq : α → α → Bool) (C : Costs) (t s tr sr : List α) (ht : tr <:+ t.reverse) (hs : sr <:+ s.reverse) :
    lookup (fullTable eq C t s) tr.length sr.length = cell eq C tr sr := by
  have l1 : tr.length ≤ t.length := Nat.le_trans ht.length_le (Nat.le_of_eq List.length_reverse)
  have l2 : sr.length ≤ s.length := Nat.le_trans hs.length_le (Nat.le_of_eq List.length_reverse)
  rw [lookup_fullTable eq C t s _ _ l1 l2, ← suffix_reverse_eq t tr ht, ← suffix_reverse_eq s sr hs]

theorem lookup_fullTable_last (eq : α → α → Bool) (C : Costs) (t s : List α) :
    lookup (fullTable eq C t s) t.length s.length = cell eq C t.reverse s.reverse := by
  rw [lookup_fullTable eq C t s _ _ (Nat.le_refl _) (Nat.le_refl _), List.take_length, List.take_length]

theorem run_replace (pre mid post : List α) (y x : α) (i : Nat) (hi : i = pre.length + mid.length) :
    applyList (.replace x i) (pre ++ (mid ++ [y]) ++ post) = some (pre ++ (mid ++ [x]) ++ post) := by
  subst hi
  simp [applyList]

theorem insertIdx_len_append (l r : List α) (x : α) : (l ++ r).insertIdx l.length x = l ++ x :: r :=
  List.modifyTailIdx_add (List.cons x) 0 l r

theorem run_insert_end (pre mid post : List α) (x : α) (i : Nat) (hi : i = pre.length + mid.length) :
    applyList (.insert x i) (pre ++ mid ++ post) = some (pre ++ mid ++ x :: post) := by
  subst hi
  rw [applyList, ← List.length_append, insertIdx_len_append, if_pos (by simp)]

theorem run_delete_last (pre mid post : List α) (y : α) (i : Nat) (hi : i = pre.length + mid.length) :
    applyList (.delete i none) (pre ++ (mid ++ [y]) ++ post) = some (pre ++ mid ++ post) := by
  subst hi
  have h : pre ++ (mid ++ [y]) ++ post = (pre ++ mid) ++ y :: post := by simp
  rw [applyList, h, ← List.length_append, if_pos (by simp), List.eraseIdx_append_of_length_le (Nat.le_refl _),
    Nat.sub_self, List.eraseIdx_cons_zero]

theorem run_deleteRange (pre mid post : List α) (l r : Nat) (hl : l = pre.length) (hr : r + 1 = pre.length + mid.length) (hm : 0 < mid.length) :
    applyList (.delete l (some r)) (pre ++ mid ++ post) = some (pre ++ post) := by
  subst hl
  have h2 : r + 1 = (pre ++ mid).length := hr.trans List.length_append.symm
  rw [applyList, if_pos ⟨by omega, by rw [List.length_append, ← h2]; omega⟩, h2, List.drop_left, List.append_assoc,
    List.take_left]

theorem runList_append (a b : List (Change α)) (L : List α) :
    runList (a ++ b) L = (runList a L).bind (runList b) := by
  induction a generalizing L with
  | nil => rfl
  | cons c cs ih =>
    simp only [List.cons_append, runList]
    cases applyList c L with
    | none => rfl
    | some L' => exact ih L'

/-- `d`, run on any list that holds the segment `S` from index `ss` on, replaces that segment by something
pointwise equal to `T`, touches nothing else and never indexes out of range -/
def Rewrites (eq : α → α → Bool) (d : List (Change α)) (ss : Nat) (S T : List α) : Prop :=
  ∀ pre post : List α, pre.length = ss →
    ∃ T', runList d (pre ++ S ++ post) = some (pre ++ T' ++ post) ∧ PW eq T' T

namespace Rewrites
variable {eq : α → α → Bool} {d d₁ d₂ : List (Change α)} {ss : Nat} {S T S₁ T₁ S₂ T₂ : List α}

theorem nil (h : PW eq S T) : Rewrites eq [] ss S T :=
  fun _ _ _ => ⟨S, rfl, h⟩

/-- the script for the right part runs first, while the left part is still the source's -/
theorem append (h₂ : Rewrites eq d₂ (ss + S₁.length) S₂ T₂) (h₁ : Rewrites eq d₁ ss S₁ T₁) :
    Rewrites eq (d₂ ++ d₁) ss (S₁ ++ S₂) (T₁ ++ T₂) := by
  intro pre post hp
  obtain ⟨R₂, r₂, p₂⟩ := h₂ (pre ++ S₁) post (by simp [hp])
  obtain ⟨R₁, r₁, p₁⟩ := h₁ pre (R₂ ++ post) hp
  refine ⟨R₁ ++ R₂, ?_, p₁.append p₂⟩
  simp only [List.append_assoc] at r₁ r₂ ⊢
  simp [runList_append, r₂, r₁]

theorem single {c : Change α}
    (h : ∀ pre post : List α, pre.length = ss → applyList c (pre ++ S ++ post) = some (pre ++ T ++ post)) :
    Rewrites eq [c] ss S T :=
  fun pre post hp => ⟨T, by simp only [runList, h pre post hp], .refl_ eq T⟩

theorem keep (h : Rewrites eq d ss S T) {x y : α} (hxy : eq x y = true) : Rewrites eq d ss (S ++ [y]) (T ++ [x]) :=
  append (nil (.cons (.inr hxy) .nil)) h

theorem replace (h : Rewrites eq d ss S T) (x y : α) {i : Nat} (hi : i = ss + S.length) :
    Rewrites eq (.replace x i :: d) ss (S ++ [y]) (T ++ [x]) :=
  append (single fun pre post hp => run_replace pre [] post y x i (by simp [hi, hp])) h

theorem insert (h : Rewrites eq d ss S T) (x : α) {i : Nat} (hi : i = ss + S.length) :
    Rewrites eq (.insert x i :: d) ss S (T ++ [x]) :=
  S.append_nil ▸ append (single fun pre post hp => by simpa using run_insert_end pre [] post x i (by simp [hi, hp])) h

theorem delete (h : Rewrites eq d ss S T) (y : α) {i : Nat} (hi : i = ss + S.length) :
    Rewrites eq (.delete i none :: d) ss (S ++ [y]) T :=
  T.append_nil ▸ append (single fun pre post hp => by simpa using run_delete_last pre [] post y i (by simp [hi, hp])) h

theorem deleteRange (r : Nat) (hr : r + 1 = ss + S.length) (hS : 0 < S.length) :
    Rewrites eq [.delete ss (some r)] ss S [] :=
  single fun pre post hp => by simpa using run_deleteRange pre S post ss r hp.symm (hp ▸ hr) hS

theorem exit {n total : Nat} (h₀ : n = total → PW eq S T) (h : Rewrites eq d ss S T) :
    Rewrites eq (if n = total then [] else d) ss S T := by
  split
  · exact nil (h₀ ‹_›)
  · exact h

/-- inserting `vs` one by one from the front, each right after the one before -/
theorem inserts (eq : α → α → Bool) (vs : List α) (base j : Nat) :
    Rewrites eq ((vs.zipIdx j).map fun (v, i) => Change.insert v (base + i)) (base + j) [] vs := by
  induction vs generalizing j with
  | nil => exact nil .nil
  | cons v vs ih =>
    intro pre post hp
    obtain ⟨T', h, hpw⟩ := ih (j + 1) (pre ++ [v]) post (by simp [hp, Nat.add_assoc])
    refine ⟨v :: T', ?_, .cons (.inl rfl) hpw⟩
    have h1 := run_insert_end pre [] post v (base + j) (by simp [hp])
    simp only [List.append_nil] at h1 h
    simpa [runList, h1] using h

theorem run (h : Rewrites eq d 0 S T) : ∃ r, runList d S = some r ∧ PW eq r T := by
  simpa only [List.nil_append, List.append_nil] using h [] [] rfl

theorem of_nil (h : Rewrites eq [] 0 S T) : PW eq S T := by
  obtain ⟨r, h1, h2⟩ := h.run
  cases h1
  exact h2

end Rewrites

theorem tail_correct (eq : α → α → Bool) (ss : Nat) (tr sr : List α) (h : tr = [] ∨ sr = []) (pre post : List α) (hp : pre.length = ss) :
    ∃ T', runList (tail ss tr sr) (pre ++ sr.reverse ++ post) = some (pre ++ T' ++ post) ∧ PW eq T' tr.reverse := by
  revert pre post
  show Rewrites eq (tail ss tr sr) ss sr.reverse tr.reverse
  induction tr with
  | nil =>
    cases sr with
    | nil => exact .nil .nil
    | cons y sr => exact .deleteRange _ (by simp [Nat.add_assoc]) (by simp)
  | cons x tr ih =>
    obtain rfl := h.resolve_left nofun
    rw [List.reverse_cons]
    exact (ih (.inr rfl)).insert x rfl

theorem pw_of_zero (eq : α → α → Bool) (C : Costs) (hD : 1 ≤ C.D) (hR : 1 ≤ C.R) (hI : 1 ≤ C.I)
    (tr sr : List α) (total n k : Nat) (hn : n = total) (hnk : n ≤ k) (hk : k + (cell eq C tr sr).cost = total) :
    PW eq sr.reverse tr.reverse := by
  apply cell_zero eq C hD hR hI; omega

/-- The backtracking loop. `k` is a ghost: the cost of the changes emitted so far, so `n ≤ k` (each costs at least 1)
and `k + cost (tr, sr) = total` all along; hence `n = total` leaves cost 0 (`pw_of_zero`) and the early exit
`changelist.len() == total` is sound. `H`: the table holds `cell` wherever the walk can come. -/
theorem bt_correct (eq : α → α → Bool) (C : Costs) (hD : 1 ≤ C.D) (hR : 1 ≤ C.R) (hI : 1 ≤ C.I)
    (table : List (List Cell)) (TR SR : List α)
    (H : ∀ tr' sr', tr' <:+ TR → sr' <:+ SR → lookup table tr'.length sr'.length = cell eq C tr' sr')
    (total ss : Nat) (tr sr : List α) (n : Nat) :
    tr <:+ TR → sr <:+ SR →
    ∀ k, n ≤ k → k + (cell eq C tr sr).cost = total → ∀ pre post : List α, pre.length = ss →
    ∃ T', runList (bt table total ss tr sr n) (pre ++ sr.reverse ++ post) = some (pre ++ T' ++ post) ∧ PW eq T' tr.reverse := by
  have read : ∀ x tr y sr, x :: tr <:+ TR → y :: sr <:+ SR → lookup table (tr.length + 1) (sr.length + 1) =
      mkCell eq C x y (cell eq C tr sr) (cell eq C tr (y :: sr)) (cell eq C (x :: tr) sr) :=
    fun x tr y sr ht hs => (H _ _ ht hs).trans (cell_cons_cons ..)
  -- after an edit of cost `c`: exit or go on
  have next : ∀ {tr sr n k c}, 1 ≤ c → n ≤ k → k + ((cell eq C tr sr).cost + c) = total →
      (∀ k', n + 1 ≤ k' → k' + (cell eq C tr sr).cost = total →
        Rewrites eq (bt table total ss tr sr (n + 1)) ss sr.reverse tr.reverse) →
      Rewrites eq (if n + 1 = total then [] else bt table total ss tr sr (n + 1)) ss sr.reverse tr.reverse := by
    intro tr sr n k c hc hnk hk ih
    have hle : n + 1 ≤ k + c := Nat.add_le_add hnk hc
    rw [Nat.add_comm _ c, ← Nat.add_assoc] at hk
    exact .exit (pw_of_zero eq C hD hR hI tr sr total _ _ · hle hk) (ih _ hle hk)
  fun_induction bt table total ss tr sr n with
  | case1 x tr y sr htag =>
    intro ht hs k hnk hk
    rw [read x tr y sr ht hs] at htag
    simp only [cell_cons_cons, mkCell_cost, htag] at hk
    rw [List.reverse_cons, List.reverse_cons]
    exact (Rewrites.nil (pw_of_zero eq C hD hR hI tr sr total _ k rfl hnk hk)).keep
      (eq_of_mkCell_noop eq C x y _ _ _ htag)
  | case2 x tr y sr n htag hn ih =>
    intro ht hs k hnk hk
    rw [read x tr y sr ht hs] at htag
    simp only [cell_cons_cons, mkCell_cost, htag] at hk
    rw [List.reverse_cons, List.reverse_cons]
    exact Rewrites.keep (ih ((List.suffix_cons x tr).trans ht) ((List.suffix_cons y sr).trans hs) k hnk hk)
      (eq_of_mkCell_noop eq C x y _ _ _ htag)
  | case3 x tr y sr n htag ih =>
    intro ht hs k hnk hk
    rw [read x tr y sr ht hs] at htag
    simp only [cell_cons_cons, mkCell_cost, htag] at hk
    rw [List.reverse_cons, List.reverse_cons]
    exact (next hR hnk hk (ih ((List.suffix_cons x tr).trans ht) ((List.suffix_cons y sr).trans hs))).replace x y (by simp)
  | case4 x tr y sr n htag ih =>
    intro ht hs k hnk hk
    rw [read x tr y sr ht hs] at htag
    simp only [cell_cons_cons, mkCell_cost, htag] at hk
    rw [List.reverse_cons (a := x)]
    exact (next hI hnk hk (ih ((List.suffix_cons x tr).trans ht) hs)).insert x (by simp [Nat.add_assoc])
  | case5 x tr y sr n htag ih =>
    intro ht hs k hnk hk
    rw [read x tr y sr ht hs] at htag
    simp only [cell_cons_cons, mkCell_cost, htag] at hk
    rw [List.reverse_cons]
    exact (next hD hnk hk (ih ht ((List.suffix_cons y sr).trans hs))).delete y (by simp)
  | case6 sr n =>
    intro _ _ _ _ _
    exact tail_correct eq ss [] sr (.inl rfl)
  | case7 tr n hne =>
    intro _ _ _ _ _
    exact tail_correct eq ss tr [] (.inr rfl)

theorem seg_self (l : List α) (a : Nat) : seg l a a = [] := by
  rw [seg, Nat.sub_self, List.take_zero]

theorem seg_full (l : List α) : seg l 0 l.length = l := by
  rw [seg, List.drop_zero, Nat.sub_zero, List.take_length]

theorem seg_split (l : List α) (a b c : Nat) (hab : a ≤ b) (hbc : b ≤ c) : seg l a c = seg l a b ++ seg l b c := by
  unfold seg
  rw [← Nat.sub_add_sub_cancel hbc hab, Nat.add_comm, List.take_add, List.drop_drop, Nat.add_sub_cancel' hab]

theorem seg_length (l : List α) (a b : Nat) (hb : b ≤ l.length) : (seg l a b).length = b - a := by
  rw [seg, List.length_take, List.length_drop, Nat.min_eq_left (Nat.sub_le_sub_right hb a)]

/-- both split points of `hirschImpl` lie in their window -/
theorem add_within {a b x : Nat} (h : a ≤ b) (hx : x ≤ b - a) : a ≤ a + x ∧ a + x ≤ b :=
  ⟨Nat.le_add_right .., Nat.add_le_of_le_sub' h hx⟩

/-- `levenshtein_impl` on any segment -/
theorem lev_correct (eq : α → α → Bool) {C : Costs} (hC : 1 ≤ C.D ∧ 1 ≤ C.R ∧ 1 ≤ C.I) (t s : List α) (ts te ss se : Nat) :
    Rewrites eq (levImpl eq C t s ts te ss se) ss (seg s ss se) (seg t ts te) := by
  have := bt_correct eq C hC.1 hC.2.1 hC.2.2 _ _ _ (lookup_fullTable_suffix eq C (seg t ts te) (seg s ss se))
    (lookup (fullTable eq C (seg t ts te) (seg s ss se)) (seg t ts te).length (seg s ss se).length).cost ss
    (seg t ts te).reverse (seg s ss se).reverse 0
    (List.suffix_refl _) (List.suffix_refl _) 0 (Nat.le_refl _) (by rw [lookup_fullTable_last, Nat.zero_add])
  rw [List.reverse_reverse, List.reverse_reverse] at this
  exact this

/-- `hirschberg_impl` on any segment: its output REVERSED is the application order. Holds for whatever split point
the row computation chooses. -/
theorem hirsch_correct (eq : α → α → Bool) {C : Costs} (hC : 1 ≤ C.D ∧ 1 ≤ C.R ∧ 1 ≤ C.I) (cutoff : Nat) (t s : List α) (ts te ss se : Nat) :
    ts ≤ te → ss ≤ se → se ≤ s.length →
    Rewrites eq (hirschImpl eq C cutoff t s ts te ss se).reverse ss (seg s ss se) (seg t ts te) := by
  fun_induction hirschImpl eq C cutoff t s ts te ss se with
  | case1 ts te ss se h =>
    intro _ _ _
    obtain ⟨rfl, rfl⟩ := h
    rw [seg_self, seg_self]
    exact .nil .nil
  | case2 te ss se h1 =>
    intro _ hss hse
    have hlt : ss < se := Nat.lt_of_le_of_ne hss fun e => h1 ⟨rfl, e⟩
    have hl := seg_length s ss se hse
    rw [seg_self]
    exact .deleteRange (se - 1) (by rw [hl, Nat.add_sub_cancel' hss, Nat.sub_add_cancel (Nat.zero_lt_of_lt hlt)])
      (hl ▸ Nat.sub_pos_of_lt hlt)
  | case3 ts te ss h1 h2 =>
    intro _ _ _
    rw [List.reverse_reverse, seg_self]
    exact .inserts eq (seg t ts te) ss 0
  | case4 ts te ss se h1 h2 h3 h4 =>
    intro _ _ _
    rw [List.reverse_reverse]
    exact lev_correct eq hC t s ts te ss se
  | case5 ts te ss se h1 h2 h3 h4 tsplit left right ssplit ihl ihr =>
    intro hts hss hse
    obtain ⟨htp1, htp2⟩ : ts ≤ tsplit ∧ tsplit ≤ te := add_within hts (Nat.div_le_self ..)
    obtain ⟨hsp1, hsp2⟩ : ss ≤ ssplit ∧ ssplit ≤ se := add_within hss (Nat.min_le_right ..)
    rw [List.reverse_append, seg_split s ss ssplit se hsp1 hsp2, seg_split t ts tsplit te htp1 htp2]
    refine .append ?_ (ihl htp1 hsp1 (Nat.le_trans hsp2 hse))
    rw [seg_length s ss ssplit (Nat.le_trans hsp2 hse), Nat.add_sub_cancel' hsp1]
    exact ihr htp2 hsp2 hse

end Lev
