import SdModel.Model.Codec

/-! Wire codecs (C08, C14): every decoder reads back its encoder's bytes followed by any `rest`; `decList_enc` lifts
an item codec that does so on the items satisfying `wf`. -/
namespace Codec

theorem readLE_le (k n : Nat) (rest : Bytes) (h : n < 256 ^ k) : readLE k (le k n ++ rest) = some (n, rest) := by
  induction k generalizing n with
  | zero => obtain rfl := Nat.lt_one_iff.mp h; rfl
  | succ k ih =>
    simp only [le, List.cons_append, readLE, ih _ ((Nat.div_lt_iff_lt_mul (by decide)).mpr h)]
    rw [Nat.mod_add_div]

theorem le_length (k n : Nat) : (le k n).length = k := by
  induction k generalizing n with
  | zero => rfl
  | succ k ih => simp [le, ih]

theorem decElem_enc (v : Nat) (rest : Bytes) (h : v < 2 ^ 32) : decElem (encElem v ++ rest) = some (v, rest) :=
  readLE_le 4 v rest h

theorem decUsize_enc (v : Nat) (rest : Bytes) (h : v < 2 ^ 64) : decUsize (encUsize v ++ rest) = some (v, rest) :=
  readLE_le 8 v rest h

theorem decOptUsize_enc (f : Fmt) (o : Option Nat) (rest : Bytes) (h : ∀ v, o = some v → v < 2 ^ 64) :
    decOptUsize f (encOptUsize o ++ rest) = some (o, rest) := by
  cases o with
  | none => rfl
  | some v => simp [encOptUsize, decOptUsize, decUsize_enc v rest (h v rfl)]

theorem decTag_enc (f : Fmt) (t : Nat) (rest : Bytes) (h : t < 256) : decTag f (encTag f t ++ rest) = some (t, rest) := by
  cases f
  · exact readLE_le 1 t rest h
  · exact readLE_le 4 t rest (Nat.lt_trans h (by decide))

theorem decN_enc {β : Type} (e : β → Bytes) (d : Bytes → Option (β × Bytes)) (wf : β → Prop)
    (h : ∀ x rest, wf x → d (e x ++ rest) = some (x, rest)) (l : List β) (hl : ∀ x ∈ l, wf x) (rest : Bytes) :
    decN d l.length ((l.map e).flatten ++ rest) = some (l, rest) := by
  induction l with
  | nil => rfl
  | cons x t ih =>
    simp only [List.length_cons, List.map_cons, List.flatten_cons, List.append_assoc, decN,
      h x _ (hl x List.mem_cons_self), ih fun y hy => hl y (List.mem_cons_of_mem _ hy)]

theorem decList_enc {β : Type} (e : β → Bytes) (d : Bytes → Option (β × Bytes)) (wf : β → Prop)
    (h : ∀ x rest, wf x → d (e x ++ rest) = some (x, rest)) (l : List β) (hl : ∀ x ∈ l, wf x)
    (hlen : l.length < 2 ^ 64) (rest : Bytes) :
    decList d (encList e l ++ rest) = some (l, rest) := by
  simp only [decList, encList, List.append_assoc, decUsize_enc _ _ hlen, decN_enc e d wf h l hl rest]

/-- a table triple is usable for `n` constructors: tags fit a byte, decoding inverts encoding. In a `simp only` set
`TabOK.decTag` and `TabOK.ctorOf` need `Nat.reduceLT` beside them to discharge `k < n`. -/
def TabOK (tb : List Nat × List Nat × List (Nat × Nat)) (n : Nat) : Prop :=
  ∀ k, k < n → tagOf tb.1 k < 256 ∧ ctorOf tb.2.2 (tagOf tb.1 k) = some k

instance (tb : List Nat × List Nat × List (Nat × Nat)) (n : Nat) : Decidable (TabOK tb n) := Nat.decidableBallLT _ _

theorem TabOK.decTag {tb : List Nat × List Nat × List (Nat × Nat)} {n : Nat} (hT : TabOK tb n) (f : Fmt) {k : Nat} (hk : k < n)
    (rest : Bytes) : decTag f (encTag f (tagOf tb.1 k) ++ rest) = some (tagOf tb.1 k, rest) :=
  decTag_enc f _ rest (hT k hk).1

theorem TabOK.ctorOf {tb : List Nat × List Nat × List (Nat × Nat)} {n : Nat} (hT : TabOK tb n) {k : Nat} (hk : k < n) :
    ctorOf tb.2.2 (tagOf tb.1 k) = some k := (hT k hk).2

/-- what a script entry must satisfy to fit the wire types (`u32` elements, `usize` = 64-bit indices) -/
def WFChange : Script.Change Nat → Prop
  | .replace v i => v < 2 ^ 32 ∧ i < 2 ^ 64
  | .insert v i => v < 2 ^ 32 ∧ i < 2 ^ 64
  | .delete i r => i < 2 ^ 64 ∧ ∀ v, r = some v → v < 2 ^ 64
  | .swap a b => a < 2 ^ 64 ∧ b < 2 ^ 64

/-- `TabOK (tables f) 4`: the side condition for the four constructors of `Script.Change` -/
def TablesOK (f : Fmt) : Prop :=
  ∀ k, k < 4 → tagOf (tables f).1 k < 256 ∧ ctorOf (tables f).2.2 (tagOf (tables f).1 k) = some k

theorem decChange_enc (f : Fmt) (hT : TablesOK f) (c : Script.Change Nat) (rest : Bytes) (hc : WFChange c) :
    decChange f (encChange f c ++ rest) = some (c, rest) := by
  have hT : TabOK (tables f) 4 := hT
  cases c <;> simp only [WFChange] at hc <;>
    simp only [encChange, encChangeWith, ctorIdx, List.append_assoc, decChange, hT.decTag, hT.ctorOf, Nat.reduceLT,
      decElem_enc, decUsize_enc, hc, Option.map_some]
  case delete i r => rw [decOptUsize_enc f r rest hc.2]; rfl

theorem decScript_enc (f : Fmt) (hT : TablesOK f) (s : List (Script.Change Nat)) (hs : ∀ c ∈ s, WFChange c)
    (hlen : s.length < 2 ^ 64) (rest : Bytes) :
    decScript f (encScript f s ++ rest) = some (s, rest) :=
  decList_enc (encChange f) (decChange f) WFChange (fun c r h => decChange_enc f hT c r h) s hs hlen rest

end Codec
