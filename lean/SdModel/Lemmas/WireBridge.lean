import SdModel.Model.Derive
import SdModel.Model.Codec

/-!
Bridge between the entry lists of the derive model (`Derive.Entries`, payloads over the universal value type) and
the entry lists of the wire model (`Codec.PL` over flat element types): `toWire` is defined exactly on the entry
lists whose values are flat (`u32` / `Option<u32>` atoms, structs of those), `fromWire` inverts it.
-/
namespace Derive
open Codec

theorem map_of_mapM_eq_some {α β : Type} (f : α → Option β) (g : β → α) (h : ∀ a b, f a = some b → g b = a) :
    ∀ (l : List α) (w : List β), l.mapM f = some w → w.map g = l
  | [], w, hw => by cases hw; rfl
  | a :: l, w, hw => by
    simp only [List.mapM_cons, Option.bind_eq_bind, Option.bind_eq_some_iff, Option.pure_def, Option.some.injEq] at hw
    obtain ⟨b, ha, bs, hl, rfl⟩ := hw
    rw [List.map_cons, h a b ha, map_of_mapM_eq_some f g h l bs hl]

def pvOfVal : Val → Option PV
  | .atom n => some (.u n)
  | .onone => some (.o none)
  | .osome (.atom n) => some (.o (some n))
  | _ => none

def valOfPV : PV → Val
  | .u n => .atom n
  | .o none => .onone
  | .o (some n) => .osome (.atom n)

theorem valOfPV_pvOfVal (v : Val) (p : PV) (h : pvOfVal v = some p) : valOfPV p = v := by
  fun_cases pvOfVal v <;> simp only [pvOfVal] at h <;> cases h <;> rfl

def leafEntryToWire (e : Nat × Payload) : Option (Nat × PV) :=
  match e.2 with
  | .val v => (pvOfVal v).map fun p => (e.1, p)
  | _ => none
def leafEntryFromWire (e : Nat × PV) : Nat × Payload := (e.1, .val (valOfPV e.2))

theorem leafEntryFromWire_toWire (e : Nat × Payload) (w : Nat × PV) (h : leafEntryToWire e = some w) : leafEntryFromWire w = e := by
  obtain ⟨j, p⟩ := e
  cases p with
  | val v => obtain ⟨q, hq, rfl⟩ := Option.map_eq_some_iff.mp h; exact congrArg (j, Payload.val ·) (valOfPV_pvOfVal v q hq)
  | _ => cases h

def leafToWire (es : List (Nat × Payload)) : Option (List (Nat × PV)) := es.mapM leafEntryToWire
def leafFromWire (w : List (Nat × PV)) : List (Nat × Payload) := w.map leafEntryFromWire
theorem leafFromWire_toWire (es : List (Nat × Payload)) (w : List (Nat × PV)) (h : leafToWire es = some w) : leafFromWire w = es :=
  map_of_mapM_eq_some _ _ leafEntryFromWire_toWire es w h

theorem Vals.ofList_toList : ∀ vs : Vals, Vals.ofList vs.toList = vs
  | .nil => rfl
  | .cons v r => congrArg (Vals.cons v) (Vals.ofList_toList r)

def valsToWire : Val → Option (List PV)
  | .strct vs => vs.toList.mapM pvOfVal
  | _ => none
def valsFromWire (l : List PV) : Val := .strct (Vals.ofList (l.map valOfPV))

theorem valsFromWire_toWire (v : Val) (l : List PV) (h : valsToWire v = some l) : valsFromWire l = v := by
  cases v with
  | strct vs => rw [valsFromWire, map_of_mapM_eq_some pvOfVal valOfPV valOfPV_pvOfVal vs.toList l h, Vals.ofList_toList]
  | _ => cases h

def rchangeToWire : RMap.Change Nat Val (List (Nat × Payload)) → Option (RMap.Change Nat (List PV) (List (Nat × PV)))
  | .insert k v => (valsToWire v).map (.insert k)
  | .remove k => some (.remove k)
  | .change k d => (leafToWire d).map (.change k)
def rchangeFromWire : RMap.Change Nat (List PV) (List (Nat × PV)) → RMap.Change Nat Val (List (Nat × Payload))
  | .insert k l => .insert k (valsFromWire l)
  | .remove k => .remove k
  | .change k d => .change k (leafFromWire d)

theorem rchangeFromWire_toWire (c : RMap.Change Nat Val (List (Nat × Payload)))
    (w : RMap.Change Nat (List PV) (List (Nat × PV))) (h : rchangeToWire c = some w) : rchangeFromWire w = c := by
  cases c with
  | insert k v => obtain ⟨l, hl, rfl⟩ := Option.map_eq_some_iff.mp h; exact congrArg (RMap.Change.insert k) (valsFromWire_toWire v l hl)
  | remove k => cases h; rfl
  | change k d => obtain ⟨l, hl, rfl⟩ := Option.map_eq_some_iff.mp h; exact congrArg (RMap.Change.change k) (leafFromWire_toWire d l hl)

def kvToWire (kv : Nat × Val) : Option (Nat × List PV) := (valsToWire kv.2).map fun l => (kv.1, l)
def kvFromWire (kv : Nat × List PV) : Nat × Val := (kv.1, valsFromWire kv.2)
theorem kvFromWire_toWire (kv : Nat × Val) (w : Nat × List PV) (h : kvToWire kv = some w) : kvFromWire w = kv := by
  obtain ⟨l, hl, rfl⟩ := Option.map_eq_some_iff.mp h
  exact congrArg (kv.1, ·) (valsFromWire_toWire kv.2 l hl)

def rdiffToWire : RMap.Diff Nat Val (List (Nat × Payload)) → Option LeafDiff
  | .replace l => (l.mapM kvToWire).map .replace
  | .modify cs => (cs.mapM rchangeToWire).map .modify
def rdiffFromWire : LeafDiff → RMap.Diff Nat Val (List (Nat × Payload))
  | .replace l => .replace (l.map kvFromWire)
  | .modify cs => .modify (cs.map rchangeFromWire)
theorem rdiffFromWire_toWire (d : RMap.Diff Nat Val (List (Nat × Payload))) (w : LeafDiff)
    (h : rdiffToWire d = some w) : rdiffFromWire w = d := by
  cases d with
  | replace l => obtain ⟨x, hx, rfl⟩ := Option.map_eq_some_iff.mp h; exact congrArg RMap.Diff.replace (map_of_mapM_eq_some _ _ kvFromWire_toWire l x hx)
  | modify cs => obtain ⟨x, hx, rfl⟩ := Option.map_eq_some_iff.mp h; exact congrArg RMap.Diff.modify (map_of_mapM_eq_some _ _ rchangeFromWire_toWire cs x hx)

def entryToWire (e : Entry) : Option ((Nat × Nat) × PL) :=
  match e.2 with
  | .val v => (pvOfVal v).map fun p => ((e.1, 0), .pv p)
  | .nested es => (leafToWire es).map fun w => ((e.1, 0), .ne w)
  | .optSome es => (leafToWire es).map fun w => ((e.1, 0), .on (some w))
  | .optNone => some ((e.1, 0), .on none)
  | .full v => (valsToWire v).map fun l => ((e.1, 1), .full l)
  | .script s => some ((e.1, 0), .sc s)
  | .uarr d => some ((e.1, 0), .ua d)
  | .umap d => some ((e.1, 0), .um d)
  | .rmap d => (rdiffToWire d).map fun w => ((e.1, 0), .rm w)

def entryFromWire (w : (Nat × Nat) × PL) : Entry :=
  (w.1.1, match w.2 with
    | .pv p => .val (valOfPV p)
    | .ne es => .nested (leafFromWire es)
    | .on none => .optNone
    | .on (some es) => .optSome (leafFromWire es)
    | .full l => .full (valsFromWire l)
    | .sc s => .script s
    | .ua d => .uarr d
    | .um d => .umap d
    | .rm d => .rmap (rdiffFromWire d))

theorem entryFromWire_toWire (e : Entry) (w : (Nat × Nat) × PL) (h : entryToWire e = some w) : entryFromWire w = e := by
  obtain ⟨j, p⟩ := e
  cases p with
  | val v => obtain ⟨q, hq, rfl⟩ := Option.map_eq_some_iff.mp h; simp only [entryFromWire, valOfPV_pvOfVal v q hq]
  | nested es | optSome es => obtain ⟨q, hq, rfl⟩ := Option.map_eq_some_iff.mp h; simp only [entryFromWire, leafFromWire_toWire es q hq]
  | full v => obtain ⟨q, hq, rfl⟩ := Option.map_eq_some_iff.mp h; simp only [entryFromWire, valsFromWire_toWire v q hq]
  | rmap d => obtain ⟨q, hq, rfl⟩ := Option.map_eq_some_iff.mp h; simp only [entryFromWire, rdiffFromWire_toWire d q hq]
  | optNone | script _ | uarr _ | umap _ => cases h; rfl

def toWire (es : Entries) : Option (List ((Nat × Nat) × PL)) := es.mapM entryToWire
def fromWire (w : List ((Nat × Nat) × PL)) : Entries := w.map entryFromWire

theorem fromWire_toWire (es : Entries) (w : List ((Nat × Nat) × PL)) (h : toWire es = some w) : fromWire w = es :=
  map_of_mapM_eq_some _ _ entryFromWire_toWire es w h

end Derive
