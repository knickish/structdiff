import SdModel.Model.Derive

/-! `veq` (the derived `==` over universal values) is a partial equivalence relation: symmetric and transitive;
it is reflexive on values that contain no `nanCode` atom. -/
namespace Derive

theorem eqAtom_symm (a b : Nat) : eqAtom a b = eqAtom b a := by
  simp only [eqAtom, Bool.and_comm (a != nanCode), Bool.beq_comm (a := canonAtom a)]

theorem eqAtom_trans (a b c : Nat) (h1 : eqAtom a b = true) (h2 : eqAtom b c = true) : eqAtom a c = true := by
  simp only [eqAtom, Bool.and_eq_true, beq_iff_eq] at *
  exact ⟨⟨h1.1.1, h2.1.2⟩, h1.2.trans h2.2⟩

mutual
theorem veq_symm : ∀ a b : Val, veq a b = veq b a
  | .atom a, b => by cases b with | atom b => exact eqAtom_symm a b | _ => rfl
  | .list a, b => by cases b with | list b => exact Bool.beq_comm | _ => rfl
  | .pairs a, b => by cases b with | pairs b => exact Bool.beq_comm | _ => rfl
  | .strct a, b => by cases b with | strct b => exact veqs_symm a b | _ => rfl
  | .onone, b => by cases b <;> rfl
  | .osome a, b => by cases b with | osome b => exact veq_symm a b | _ => rfl
  | .rmap a, b => by cases b with | rmap b => exact veqm_symm a b | _ => rfl
theorem veqs_symm : ∀ a b : Vals, veqs a b = veqs b a
  | .nil, b => by cases b <;> rfl
  | .cons a as, b => by
    cases b with
    | nil => rfl
    | cons b bs =>
      show (veq a b && veqs as bs) = (veq b a && veqs bs as)
      rw [veq_symm a b, veqs_symm as bs]
theorem veqm_symm : ∀ a b : RMapV, veqm a b = veqm b a
  | .nil, b => by cases b <;> rfl
  | .cons k a as, b => by
    cases b with
    | nil => rfl
    | cons k' b bs =>
      show (k == k' && veq a b && veqm as bs) = (k' == k && veq b a && veqm bs as)
      rw [veq_symm a b, veqm_symm as bs, Bool.beq_comm (a := k)]
end

-- `termination_by structural`: left to itself Lean compiles this block by well-founded recursion, at several times the cost
mutual
theorem veq_trans (a b c : Val) (h1 : veq a b = true) (h2 : veq b c = true) : veq a c = true := by
  cases a with
  | atom a =>
    cases b with
    | atom b => cases c with
      | atom c => exact eqAtom_trans a b c h1 h2
      | _ => contradiction
    | _ => contradiction
  | list a =>
    cases b with
    | list b => cases c with
      | list c => exact BEq.trans h1 h2
      | _ => contradiction
    | _ => contradiction
  | pairs a =>
    cases b with
    | pairs b => cases c with
      | pairs c => exact BEq.trans h1 h2
      | _ => contradiction
    | _ => contradiction
  | strct a =>
    cases b with
    | strct b => cases c with
      | strct c => exact veqs_trans a b c h1 h2
      | _ => contradiction
    | _ => contradiction
  | onone =>
    cases b with
    | onone => exact h2
    | _ => contradiction
  | osome a =>
    cases b with
    | osome b => cases c with
      | osome c => exact veq_trans a b c h1 h2
      | _ => contradiction
    | _ => contradiction
  | rmap a =>
    cases b with
    | rmap b => cases c with
      | rmap c => exact veqm_trans a b c h1 h2
      | _ => contradiction
    | _ => contradiction
termination_by structural a
theorem veqs_trans : ∀ a b c : Vals, veqs a b = true → veqs b c = true → veqs a c = true
  | .nil, b, c, h1, h2 => by
    cases b with
    | nil => exact h2
    | cons _ _ => contradiction
  | .cons a as, b, c, h1, h2 => by
    cases b with
    | nil => contradiction
    | cons b bs => cases c with
      | nil => contradiction
      | cons c cs =>
        obtain ⟨h1, h1'⟩ := Bool.and_eq_true_iff.mp h1
        obtain ⟨h2, h2'⟩ := Bool.and_eq_true_iff.mp h2
        exact Bool.and_eq_true_iff.mpr ⟨veq_trans a b c h1 h2, veqs_trans as bs cs h1' h2'⟩
termination_by structural a => a
theorem veqm_trans : ∀ a b c : RMapV, veqm a b = true → veqm b c = true → veqm a c = true
  | .nil, b, c, h1, h2 => by
    cases b with
    | nil => exact h2
    | cons _ _ _ => contradiction
  | .cons k a as, b, c, h1, h2 => by
    cases b with
    | nil => contradiction
    | cons k' b bs => cases c with
      | nil => contradiction
      | cons k'' c cs =>
        simp only [veqm, Bool.and_eq_true, beq_iff_eq] at *
        exact ⟨⟨h1.1.1.trans h2.1.1, veq_trans a b c h1.1.2 h2.1.2⟩, veqm_trans as bs cs h1.2 h2.2⟩
termination_by structural a => a
end

theorem veq_symm' {a b : Val} (h : veq a b = true) : veq b a = true := (veq_symm b a).trans h

theorem veqm_refl : ∀ (m : RMapV), (∀ kv ∈ m.toList, veq kv.2 kv.2 = true) → veqm m m = true
  | .nil, _ => rfl
  | .cons k v rest, h => by
    simp only [veqm, Bool.and_eq_true, beq_self_eq_true, true_and]
    exact ⟨h (k, v) List.mem_cons_self, veqm_refl rest fun kv hkv => h kv (List.mem_cons_of_mem _ hkv)⟩

open RMap in
theorem veqm_kget : ∀ (a b : RMapV), veqm a b = true → ∀ k,
    (kget a.toList k).isSome = (kget b.toList k).isSome ∧
    ∀ x y, kget a.toList k = some x → kget b.toList k = some y → veq x y = true
  | .nil, .nil, _, _ => ⟨rfl, nofun⟩
  | .nil, .cons _ _ _, h, _ => by cases h
  | .cons _ _ _, .nil, h, _ => by cases h
  | .cons ka va ra, .cons kb vb rb, h, k => by
    simp only [veqm, Bool.and_eq_true, beq_iff_eq] at h
    obtain ⟨⟨rfl, hv⟩, hr⟩ := h
    by_cases hk : ka = k
    · simp only [RMapV.toList, kget, if_pos hk]
      exact ⟨rfl, fun x y hx hy => by cases hx; cases hy; exact hv⟩
    · simp only [RMapV.toList, kget, if_neg hk]
      exact veqm_kget ra rb hr k

end Derive
