import SdModel.Lemmas.WireTotal
import SdModel.Lemmas.RMap

/-!
The recursive map: every value a computed diff carries comes from the CURRENT map, and every nested diff is the nested
diff towards a value of the current map (`RMap.hashcmp_fromCur`), so its entry is expressible when the current map's
values are flat; with it, `diff_toWire_defined_all`.
-/
namespace Derive
open Codec

/-- what a recursive-map field needs: a flat value type and flat values in the target map -/
def RMapFlat (t : Ty) (b : Val) : Prop :=
  match t with
  | .struct fs => AllPlain fs ∧ ∀ m, b = .rmap m → ∀ x ∈ m.toList, ∃ y, x.2 = .strct y ∧ FlatVals y
  | .enum => False

theorem rmap_entry_toWire (ko : Bool) (fs : FieldTys) (a b : Val) (h : RMapFlat (.struct fs) b) (i : Nat) (p : Payload)
    (hp : (semKind (.recMap ko (.struct fs))).diff a b = some p) : (entryToWire (i, p)).isSome = true := by
  obtain ⟨h1, h2⟩ := h
  obtain ⟨d, hd, rfl⟩ := Option.map_eq_some_iff.mp hp
  let G : Val → Prop := fun v => ∃ y, v = .strct y ∧ FlatVals y
  have hcur : ∀ x ∈ asRMap b, G x.2 := by
    intro x hx
    cases b with
    | rmap m => exact h2 m rfl x hx
    | _ => cases hx
  have hG : ∀ v, G v → (valsToWire v).isSome = true := by
    rintro v ⟨y, rfl, hy⟩
    exact flatVals_toWire y hy
  have key := RMap.hashcmp_fromCur (nestedOf (semTy (.struct fs))) (asRMap a) (asRMap b) ko G hcur d hd
  refine Option.isSome_map.trans ?_
  cases d with
  | replace l =>
    exact Option.isSome_map.trans (mapM_isSome_of_forall _ _ fun x hx => Option.isSome_map.trans (hG x.2 (key x hx)))
  | modify es =>
    refine Option.isSome_map.trans (mapM_isSome_of_forall _ _ fun c hc' => ?_)
    have hc := key c hc'
    cases c with
    | remove k => rfl
    | insert k v => exact Option.isSome_map.trans (hG v hc)
    | change k dd =>
      obtain ⟨pv, cv, rfl, ⟨y, rfl, hy⟩⟩ := hc
      exact Option.isSome_map.trans (leaf_diff_toWire fs h1 pv (.strct y) (fun z hz => by cases hz; exact hy)).2

/-- `FieldFlat` extended by the recursive map -/
def FieldFlatAll : Kind → Val → Prop
  | .recMap _ t, b => RMapFlat t b
  | k, b => FieldFlat k b

def StructFlatAll : FieldTys → Vals → Prop
  | .nil, _ => True
  | .cons skip k r, .cons b bs => (skip = true ∨ FieldFlatAll k b) ∧ StructFlatAll r bs
  | .cons _ _ _, .nil => True

theorem field_entry_toWire_all (k : Kind) (a b : Val) (h : FieldFlatAll k b) (i : Nat) (p : Payload)
    (hp : (semKind k).diff a b = some p) : (entryToWire (i, p)).isSome = true := by
  cases k with
  | recMap ko t =>
    cases t with
    | enum => exact h.elim
    | struct fs => exact rmap_entry_toWire ko fs a b h i p hp
  | _ => exact field_entry_toWire _ a b (by exact h) i p hp -- `by exact`: the kind is found from `hp` first

theorem FieldFlat.all {k : Kind} {b : Val} (h : FieldFlat k b) : FieldFlatAll k b := by
  cases k with
  | recMap ko t => exact h.elim
  | _ => exact h

theorem StructFlat.all : ∀ {fs : FieldTys} {y : Vals}, StructFlat fs y → StructFlatAll fs y
  | .nil, _, _ => trivial
  | .cons _ _ _, .nil, _ => trivial
  | .cons _ _ _, .cons _ _, h => ⟨h.1.imp_right FieldFlat.all, StructFlat.all h.2⟩

/-- `toWire` is defined on every diff of every struct type over flat element types (all eight templates), for a
flat-shaped target -/
theorem diff_toWire_defined_all (fs : FieldTys) (a b : Val) (hb : ∀ y, b = .strct y → StructFlatAll fs y) :
    (toWire ((semTy (.struct fs)).diff a b)).isSome = true := by
  rw [semTy]
  rcases structSem_diff_cases (semFields fs) a b with ⟨h1, _⟩ | ⟨x, y, _, rfl, h1, _⟩ <;> rw [h1]
  · rfl
  · exact sdiffG_mapM_isSome entryToWire (·.diff) FieldFlatAll field_entry_toWire_all StructFlatAll (fun _ _ _ _ _ h => h)
      fs 0 x y (hb y rfl)

theorem diff_toWire_defined (fs : FieldTys) (a b : Val) (hb : ∀ y, b = .strct y → StructFlat fs y) :
    (toWire ((semTy (.struct fs)).diff a b)).isSome = true :=
  diff_toWire_defined_all fs a b fun y hy => (hb y hy).all

end Derive
