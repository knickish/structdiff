import SdModel.Lemmas.Lev

/-!
The converse direction for C07 / C04: when source and target are the same list (and `eq` is reflexive),
`hirschberg` and `levenshtein` return no diff at all.  For the divide-and-conquer driver this needs that the split
point chosen from the two last rows is exactly the diagonal one: the summed cost is 0 there and positive everywhere
before it, whatever the cell rule's tie-breaking and whichever neighbour it reads `insert`/`delete` from.
-/
namespace Lev
open Script
variable {α : Type}

theorem cellG_self_cost {mk : CellRule α} (hmk : ZeroRule mk) {eq : α → α → Bool} (hrefl : ∀ x, eq x x = true) {C : Costs}
    {l : List α} : (cellG mk eq C l l).cost = 0 := by
  induction l with
  | nil => simp [cellG_nil]
  | cons x l ih =>
    rw [cellG_cons_cons, hmk.noop eq C x x _ _ _ (hrefl x)]
    exact ih

theorem cellG_self_tag {mk : CellRule α} (hmk : ZeroRule mk) {eq : α → α → Bool} (hrefl : ∀ x, eq x x = true) {C : Costs}
    {x : α} {l : List α} : (cellG mk eq C (x :: l) (x :: l)).tag = .noop := by
  rw [cellG_cons_cons, hmk.noop eq C x x _ _ _ (hrefl x)]

theorem argminAux_zero (vs : List Nat) (i besti : Nat) : argminAux vs i 0 besti = besti := by
  induction vs generalizing i with
  | nil => rfl
  | cons v vs ih => simp [argminAux, ih]

theorem argminAux_first_zero (vs : List Nat) : ∀ (i best besti k : Nat), 0 < best → vs[k]? = some 0 →
    (∀ j v, j < k → vs[j]? = some v → 0 < v) → argminAux vs i best besti = i + k := by
  induction vs with
  | nil => intro i best besti k _ h; cases h
  | cons v vs ih =>
    intro i best besti k hb hk hlt
    cases k with
    | zero =>
      cases hk
      simp [argminAux, hb, argminAux_zero]
    | succ k =>
      have hv : 0 < v := hlt 0 v (Nat.succ_pos k) rfl
      have hlt' : ∀ j w, j < k → vs[j]? = some w → 0 < w := fun j w hj => hlt (j + 1) w (Nat.succ_lt_succ hj)
      simp only [argminAux]
      split
      · rw [ih (i + 1) v i k hv hk hlt', Nat.succ_add_eq_add_succ]
      · rw [ih (i + 1) best besti k hb hk hlt', Nat.succ_add_eq_add_succ]

theorem argmin_first_zero (vs : List Nat) (k : Nat) (hk : vs[k]? = some 0)
    (hlt : ∀ j v, j < k → vs[j]? = some v → 0 < v) : argmin vs = k := by
  cases vs with
  | nil => cases hk
  | cons v vs =>
    -- starting one step earlier with a larger `best` is the same and needs no case on `k`
    have : argmin (v :: vs) = argminAux (v :: vs) 0 (v + 1) 0 := by simp [argmin, argminAux]
    rw [this, argminAux_first_zero (v :: vs) 0 (v + 1) 0 k (Nat.succ_pos v) hk hlt, Nat.zero_add]

theorem splitOffset_first_zero {left right : List Cell} {k : Nat} {a b : Cell}
    (hl : left[k]? = some a) (hr : right.reverse[k]? = some b) (ha : a.cost = 0) (hb : b.cost = 0)
    (hpos : ∀ j c, j < k → left[j]? = some c → 0 < c.cost) : splitOffset left right = k := by
  apply argmin_first_zero
  · rw [List.getElem?_map, List.getElem?_zip_eq_some (z := (a, b)) |>.mpr ⟨hl, hr⟩]
    simp [ha, hb]
  · intro j v hj hv
    rw [List.getElem?_map] at hv
    obtain ⟨⟨c, d⟩, hz, rfl⟩ := Option.map_eq_some_iff.mp hv
    exact Nat.add_pos_left (hpos j c hj (List.getElem?_zip_eq_some.mp hz).1) _

theorem splitOffset_self (eq : α → α → Bool) (hrefl : ∀ x, eq x x = true) {C : Costs} (hC : 1 ≤ C.D ∧ 1 ≤ C.R ∧ 1 ≤ C.I)
    (a b : List α) :
    splitOffset (lastRowFwd eq C a (a ++ b)) (lastRowRev eq C b (a ++ b)) = a.length := by
  have hl : (lastRowFwd eq C a (a ++ b))[a.length]? = some (cellG mkCellLR eq C a.reverse a.reverse) := by
    rw [lastRowFwd, rowOfLR, rowOfG_get (by simp), List.take_left']
    rfl
  have hr : (lastRowRev eq C b (a ++ b)).reverse[a.length]? = some (cellG mkCellLR eq C b b) := by
    have hlen : (lastRowRev eq C b (a ++ b)).length = a.length + b.length + 1 := by
      simp [lastRowRev, rowOfLR, rowOfG_length, Nat.add_comm]
    rw [List.getElem?_reverse (by omega), hlen, Nat.add_sub_cancel, Nat.add_sub_cancel_left, lastRowRev, rowOfLR,
      rowOfG_get (by simp), List.reverse_append, List.take_left' (List.length_reverse ..), List.reverse_reverse]
  refine splitOffset_first_zero hl hr (cellG_self_cost zeroRule_mkCellLR hrefl)
    (cellG_self_cost zeroRule_mkCellLR hrefl) fun j c hj hc => Nat.pos_of_ne_zero fun h0 => ?_
  -- a cost-0 cell left of the diagonal would relate lists of different lengths
  rw [lastRowFwd, rowOfLR, rowOfG_get (by simp; omega)] at hc
  obtain rfl := Option.some.inj hc
  have := (cellG_zero zeroRule_mkCellLR eq hC _ _ h0).length_eq
  simp at this
  omega

theorem levImpl_self (eq : α → α → Bool) (hrefl : ∀ x, eq x x = true) (C : Costs) (t : List α) (ts te : Nat) :
    levImpl eq C t t ts te ts te = [] := by
  simp only [levImpl]
  generalize seg t ts te = l
  -- the total cost is 0 = `changelist.len()`: an empty walk, or a first NoOp cell that takes the early exit
  rw [lookup_fullTable_last, cell, cellG_self_cost zeroRule_mkCell hrefl]
  cases hrev : l.reverse with
  | nil => rw [bt]; rfl
  | cons x r =>
    have hlen : r.length + 1 = l.length := (congrArg List.length hrev).symm.trans List.length_reverse
    rw [bt, hlen, lookup_fullTable_last, cell, hrev, cellG_self_tag zeroRule_mkCell hrefl]
    rfl

theorem hirschImpl_self (eq : α → α → Bool) (hrefl : ∀ x, eq x x = true) {C : Costs} (hC : 1 ≤ C.D ∧ 1 ≤ C.R ∧ 1 ≤ C.I)
    (cutoff : Nat) {t s : List α} {ts te ss se : Nat} :
    t = s → ts = ss → te = se → ts ≤ te → te ≤ t.length → hirschImpl eq C cutoff t s ts te ss se = [] := by
  fun_induction hirschImpl eq C cutoff t s ts te ss se with
  | case1 => intros; rfl
  | case2 te ss se h1 =>
    rintro _ rfl rfl _ _
    exact absurd ⟨rfl, rfl⟩ h1
  | case3 ts te ss h1 h2 =>
    rintro _ rfl rfl _ _
    exact absurd rfl h1
  | case4 ts te ss se h1 h2 h3 h4 =>
    rintro rfl rfl rfl _ _
    rw [levImpl_self eq hrefl]; rfl
  | case5 ts te ss se h1 h2 h3 h4 tsplit left right ssplit ihl ihr =>
    rintro rfl rfl rfl hle hlen
    obtain ⟨htp1, htp2⟩ : ts ≤ tsplit ∧ tsplit ≤ te := add_within hle (Nat.div_le_self ..)
    have hoff : splitOffset left right = tsplit - ts := by
      simp only [left, right]
      rw [seg_split t ts tsplit te htp1 htp2, splitOffset_self eq hrefl hC, seg_length t ts tsplit (Nat.le_trans htp2 hlen)]
    have hss : tsplit = ssplit := by
      simp only [ssplit, hoff, Nat.min_eq_left (Nat.sub_le_sub_right htp2 ts), Nat.add_sub_cancel' htp1]
    rw [ihl rfl rfl hss htp1 (Nat.le_trans htp2 hlen), ihr rfl hss rfl htp2 hlen]
    rfl

theorem hirschberg_self (eq : α → α → Bool) (hrefl : ∀ x, eq x x = true) {C : Costs} (hC : 1 ≤ C.D ∧ 1 ≤ C.R ∧ 1 ≤ C.I)
    (cutoff : Nat) (t : List α) : hirschberg eq C cutoff t t = none := by
  simp only [hirschberg]
  rw [hirschImpl_self eq hrefl hC cutoff rfl rfl rfl (Nat.zero_le _) (Nat.le_refl _)]

theorem levenshtein_self (eq : α → α → Bool) (hrefl : ∀ x, eq x x = true) (C : Costs) (t : List α) :
    levenshtein eq C t t = none := by
  simp only [levenshtein]
  rw [levImpl_self eq hrefl]

end Lev
