import SdModel.Lemmas.Derive
import SdModel.Lemmas.RMap
import SdModel.Props.C07
import SdModel.Props.C11
import SdModel.Props.C12
import SdModel.Props.C19

/-!
The eight field templates and the enum template each satisfy the specification of `Lemmas/Derive.lean`
(using the collection-level theorems C07, C11, C12, C19 and the recursive-map lemmas).
-/
namespace Derive

/-! `if a == b { nothing } else { an entry }` : the shape of the plain, nested and optional-nested templates -/

theorem ite_none_iff {α : Type} (c : Bool) (q : α) : (if c = true then none else some q) = none ↔ c = true := by
  cases c <;> simp

def plainRel : FieldRel where
  wt _ := True
  same a b := veq a b = true
  equiv a f := a = f ∨ veq a f = true
  post f b r := r = b ∨ (r = f ∧ veq b f = true)

/-- nothing was sent because `a == b`: a follower of `a` that stays as it is, is `==` to `b` -/
theorem veq_follower {a b f : Val} (he : a = f ∨ veq a f = true) (h : veq a b = true) : veq b f = true := by
  rcases he with rfl | he
  · exact veq_symm' h
  · exact veq_trans b a f (veq_symm' h) he

theorem plain_post_equiv {f b r : Val} (hp : r = b ∨ (r = f ∧ veq b f = true)) : b = r ∨ veq b r = true := by
  rcases hp with rfl | ⟨rfl, h⟩
  · exact .inl rfl
  · exact .inr h

theorem plain_spec : FieldSpec plainField plainRel :=
  .ofCore
    (refl := fun _ _ => .inl rfl)
    (none_iff := fun a b _ _ => ite_none_iff (veq a b) _)
    (follow := fun a b f p _ _ _ _ hd => by
      cases (Option.ite_none_left_eq_some.mp hd).2
      exact ⟨b, rfl, trivial, .inl rfl⟩)
    (same_stay := fun _ _ _ _ _ _ he h => .inr ⟨rfl, veq_follower he h⟩)
    (post_equiv := fun _ _ _ _ _ _ => plain_post_equiv)
    (ref_eq := rfl)
    (veq_same := fun _ _ _ _ h => h)

def enumRel : TyRel where
  wt _ := True
  equiv a f := a = f ∨ veq a f = true
  post f b r := r = b ∨ (r = f ∧ veq b f = true)

theorem enum_spec : TySpec enumSem enumRel where
  refl _ _ := .inl rfl
  self _ _ h := if_pos h
  follow a b f _ _ _ he := by
    show ∃ r, enumSem.apply f (if veq a b then [] else [(0, .val b)]) = .ok r ∧ _
    by_cases h : veq a b = true
    · rw [if_pos h]; exact ⟨f, rfl, trivial, .inr ⟨rfl, veq_follower he h⟩⟩
    · rw [if_neg h]; exact ⟨b, rfl, trivial, .inl rfl⟩
  post_equiv _ _ _ _ _ _ := plain_post_equiv
  ref_eq _ _ := rfl
  veq_nodiff _ _ _ _ h := if_pos h

def recurseRel (R : TyRel) : FieldRel where
  wt := R.wt
  same a b := veq a b = true
  equiv := R.equiv
  post := R.post

theorem recurse_spec (S : TySem) (R : TyRel) (hS : TySpec S R) : FieldSpec (recurseField S) (recurseRel R) :=
  .ofCore
    (refl := hS.refl)
    (none_iff := fun a b _ _ => ite_none_iff (veq a b) _)
    (follow := fun a b f p ha hb hf he hd => by
      cases (Option.ite_none_left_eq_some.mp hd).2
      exact hS.follow a b f ha hb hf he)
    (same_stay := fun a b f ha hb hf he h => hS.veq_stay a b f ha hb hf h he)
    (post_equiv := hS.post_equiv)
    (ref_eq := by rw [recurseField, hS.diffRef_eq])
    (veq_same := fun _ _ _ _ h => h)

def roptRel (R : TyRel) : FieldRel where
  wt v := v = .onone ∨ ∃ x, v = .osome x ∧ R.wt x
  same a b := veq a b = true
  equiv a f := (a = .onone ∧ f = .onone) ∨ ∃ x y, a = .osome x ∧ f = .osome y ∧ R.equiv x y
  post f b r := (b = .onone ∧ r = .onone) ∨
    ∃ y, b = .osome y ∧ ((f = .onone ∧ r = .osome y) ∨ ∃ x z, f = .osome x ∧ r = .osome z ∧ R.post x y z)

theorem ropt_wt_some {R : TyRel} {x : Val} (h : (roptRel R).wt (.osome x)) : R.wt x := by
  obtain ⟨_, e, hx⟩ := h.resolve_left nofun
  cases e
  exact hx

theorem ropt_apply_optSome (S : TySem) (x : Val) {es : Entries} {z : Val} (h : S.apply x es = .ok z) :
    (recurseOptField S).apply (.osome x) (.optSome es) = .ok (.osome z) := by
  dsimp only [recurseOptField]
  rw [applyMut_eq_apply, h]

theorem ropt_spec (S : TySem) (R : TyRel) (hS : TySpec S R) : FieldSpec (recurseOptField S) (roptRel R) := by
  refine .ofCore (veq_same := fun _ _ _ _ h => h) ?refl ?none_iff ?follow ?same_stay ?post_equiv ?ref_eq
  case refl =>
    rintro _ (rfl | ⟨x, rfl, hx⟩)
    · exact .inl ⟨rfl, rfl⟩
    · exact .inr ⟨x, x, rfl, rfl, hS.refl x hx⟩
  case none_iff =>
    rintro _ _ (rfl | ⟨x, rfl, _⟩) (rfl | ⟨y, rfl, _⟩)
    · exact iff_of_true rfl rfl
    · exact iff_of_false nofun nofun
    · exact iff_of_false nofun nofun
    · exact ite_none_iff (veq x y) _
  case follow =>
    rintro _ _ _ p ha (rfl | ⟨y, rfl, hy⟩) hf (⟨rfl, rfl⟩ | ⟨x, x', rfl, rfl, he⟩) hd
    · cases hd
    · cases hd
      exact ⟨.onone, rfl, .inl rfl, .inl ⟨rfl, rfl⟩⟩
    · cases hd
      exact ⟨.osome y, rfl, .inr ⟨y, rfl, hy⟩, .inr ⟨y, rfl, .inl ⟨rfl, rfl⟩⟩⟩
    · cases (Option.ite_none_left_eq_some.mp hd).2
      obtain ⟨z, hz1, hz2, hz3⟩ := hS.follow x y x' (ropt_wt_some ha) hy (ropt_wt_some hf) he
      exact ⟨.osome z, ropt_apply_optSome S x' hz1, .inr ⟨z, rfl, hz2⟩, .inr ⟨y, rfl, .inr ⟨x', z, rfl, rfl, hz3⟩⟩⟩
  case same_stay =>
    rintro _ _ _ ha (rfl | ⟨y, rfl, hy⟩) hf (⟨rfl, rfl⟩ | ⟨x, x', rfl, rfl, he⟩) hv <;> try cases hv
    · exact .inl ⟨rfl, rfl⟩
    · exact .inr ⟨y, rfl, .inr ⟨x', x', rfl, rfl, hS.veq_stay x y x' (ropt_wt_some ha) hy (ropt_wt_some hf) hv he⟩⟩
  case post_equiv =>
    rintro _ _ _ hf (rfl | ⟨y, rfl, hy⟩) hr (⟨h1, rfl⟩ | ⟨_, h1, hp⟩) <;> cases h1
    · exact .inl ⟨rfl, rfl⟩
    · rcases hp with ⟨rfl, rfl⟩ | ⟨x, z, rfl, rfl, hp⟩
      · exact .inr ⟨y, y, rfl, rfl, hS.refl y hy⟩
      · exact .inr ⟨y, z, rfl, rfl, hS.post_equiv x y z (ropt_wt_some hf) hy (ropt_wt_some hr) hp⟩
  case ref_eq =>
    rw [recurseOptField, hS.diffRef_eq]

def orderedRel : FieldRel where
  wt v := ∃ l, v = .list l
  same a b := a = b
  equiv a f := a = f
  post _ b r := r = b

theorem eqNat_eq : eqNat = fun a b => decide (a = b) :=
  funext fun a => funext fun b => Bool.beq_eq_decide_eq a b

theorem costs_eq : costs = C07.costs := rfl

theorem ordered_diff (al bl : List Nat) :
    orderedField.diff (.list al) (.list bl) =
      (Lev.hirschberg (fun a b => decide (a = b)) C07.costs Gen.levCutoff bl al).map .script := by
  rw [← eqNat_eq, ← costs_eq]; rfl

theorem ordered_spec : FieldSpec orderedField orderedRel := by
  refine .ofCore (refl := fun _ _ => rfl) (same_stay := fun _ _ _ _ _ _ he hs => he ▸ hs)
    (post_equiv := fun _ _ _ _ _ _ h => h.symm) (ref_eq := rfl) ?none_iff ?follow ?veq_same
  case none_iff =>
    rintro _ _ ⟨al, rfl⟩ ⟨bl, rfl⟩
    rw [ordered_diff, Option.map_eq_none_iff, C07.absent_iff_eq]
    exact ⟨congrArg Val.list, Val.list.inj⟩
  case follow =>
    rintro _ _ _ p ⟨al, rfl⟩ ⟨bl, rfl⟩ _ rfl hd
    rw [ordered_diff] at hd
    obtain ⟨d, hh, rfl⟩ := Option.map_eq_some_iff.mp hd
    obtain ⟨r, hr1, hr2⟩ := C07.roundtrip_on_rope _ bl al d (.inl hh)
    have e := C07.PW_eq_of_lawful r bl hr2
    subst e
    exact ⟨.list r, by dsimp only [orderedField, asList]; rw [hr1], ⟨r, rfl⟩, rfl⟩
  case veq_same =>
    rintro _ _ ⟨al, rfl⟩ ⟨bl, rfl⟩ h
    exact congrArg Val.list (beq_iff_eq.mp h)

def unordRel : FieldRel where
  wt v := ∃ l, v = .list l
  same a b := ∀ x, (asList a).count x = (asList b).count x
  equiv a f := ∀ x, (asList a).count x = (asList f).count x
  post _ b r := ∃ l, r = .list l ∧ ∀ x, l.count x = (asList b).count x

/-- the result of applying a diff depends on the base only through its counts -/
theorem uarr_apply_congr (base base' : List Nat) (d : UArr.Diff Nat) (h : ∀ x, base.count x = base'.count x) (x : Nat) :
    (UArr.apply base d).count x = (UArr.apply base' d).count x := by
  cases d with
  | replace r => rfl
  | modify es => exact C19.arr_order_free base base' es es h (List.Perm.refl _) x

theorem unord_spec : FieldSpec unordField unordRel := by
  refine .ofCore (refl := fun _ _ _ => rfl) (ref_eq := rfl) ?none_iff ?follow ?same_stay ?post_equiv ?veq_same
  case none_iff =>
    intro a b _ _
    exact Option.map_eq_none_iff.trans (C11.absent_iff (asList a) (asList b))
  case follow =>
    intro a b f p _ _ _ he hd
    obtain ⟨d, hh, rfl⟩ : ∃ d, UArr.hashcmp Gen.fewMax (asList a) (asList b) = some d ∧ Payload.uarr d = p :=
      Option.map_eq_some_iff.mp hd
    refine ⟨.list (UArr.apply (asList f) d), rfl, ⟨_, rfl⟩, _, rfl, fun x => ?_⟩
    rw [← uarr_apply_congr (asList a) (asList f) d he x]
    exact C11.roundtrip (asList a) (asList b) d hh x
  case same_stay =>
    rintro a b _ _ _ ⟨fl, rfl⟩ he hs
    exact ⟨fl, rfl, fun x => (he x).symm.trans (hs x)⟩
  case post_equiv =>
    rintro _ _ _ _ _ _ ⟨l, rfl, hl⟩ x
    exact (hl x).symm
  case veq_same =>
    rintro _ _ ⟨al, rfl⟩ ⟨bl, rfl⟩ h x
    cases beq_iff_eq.mp h
    rfl

def mapRel : FieldRel where
  wt v := ∃ l, v = .pairs l ∧ UMap.UniqueKeys l
  same a b := ∀ k, UMap.plookup (asPairs a) k = UMap.plookup (asPairs b) k
  equiv a f := ∀ k, UMap.plookup (asPairs a) k = UMap.plookup (asPairs f) k
  post _ b r := ∃ l, r = .pairs l ∧ UMap.UniqueKeys l ∧ ∀ k, UMap.plookup l k = UMap.plookup (asPairs b) k

theorem dedupKeysAux_unique (seen : List Nat) (l : List (Nat × Nat)) (hu : UMap.UniqueKeys l)
    (hs : ∀ kv ∈ l, kv.1 ∉ seen) : dedupKeysAux seen l = l := by
  induction l generalizing seen with
  | nil => rfl
  | cons kv t ih =>
    obtain ⟨hk, hs⟩ := List.forall_mem_cons.mp hs
    obtain ⟨hkt, hu⟩ := List.nodup_cons.mp hu
    rw [dedupKeysAux, if_neg (mt List.contains_iff_mem.mp hk), ih (kv.1 :: seen) hu]
    exact fun kv' hkv' => List.not_mem_cons_of_ne_of_not_mem (fun e => hkt (List.mem_map.mpr ⟨kv', hkv', e⟩)) (hs kv' hkv')

theorem dedupKeys_unique (l : List (Nat × Nat)) (hu : UMap.UniqueKeys l) : dedupKeys l = l :=
  dedupKeysAux_unique [] l hu fun _ _ => List.not_mem_nil

/-- both `map_equality` modes: with unique keys the two collectors coincide -/
theorem map_spec (ko : Bool) : FieldSpec (mapField ko) mapRel := by
  refine .ofCore (refl := fun _ _ _ => rfl) (ref_eq := rfl) ?none_iff ?follow ?same_stay ?post_equiv ?veq_same
  case none_iff =>
    rintro _ _ ⟨al, rfl, hal⟩ ⟨bl, rfl, hbl⟩
    exact Option.map_eq_none_iff.trans (C12.absent_iff al bl hal hbl ko)
  case follow =>
    rintro _ _ _ p ⟨al, rfl, hal⟩ ⟨bl, rfl, hbl⟩ ⟨fl, rfl, hfl⟩ he hd
    obtain ⟨d, hh, rfl⟩ : ∃ d, UMap.hashcmp al bl ko = some d ∧ Payload.umap d = p := Option.map_eq_some_iff.mp hd
    obtain ⟨u, v⟩ := C12.roundtrip_follower al bl fl hal hbl hfl (fun k => (he k).symm) ko d hh
    exact ⟨.pairs (UMap.apply fl d), congrArg (Except.ok ∘ Val.pairs) (dedupKeys_unique _ u), ⟨_, rfl, u⟩, _, rfl, u, v⟩
  case same_stay =>
    rintro _ _ _ _ _ ⟨fl, rfl, hfl⟩ he hs
    exact ⟨fl, rfl, hfl, fun k => (he k).symm.trans (hs k)⟩
  case post_equiv =>
    rintro _ _ _ _ _ _ ⟨l, rfl, _, hl⟩ k
    exact (hl k).symm
  case veq_same =>
    rintro _ _ ⟨al, rfl, _⟩ ⟨bl, rfl, _⟩ h k
    cases beq_iff_eq.mp h
    rfl

theorem RMapV.toList_ofList (l : List (Nat × Val)) : (RMapV.ofList l).toList = l := by
  induction l with
  | nil => rfl
  | cons x l ih => exact congrArg (x :: ·) ih

section RecMap
open RMap

def rmWt (R : TyRel) (v : Val) : Prop :=
  ∃ m, v = .rmap m ∧ NoDupK m.toList ∧ ∀ k w, kget m.toList k = some w → R.wt w

def recMapRel (ko : Bool) (R : TyRel) : FieldRel where
  wt := rmWt R
  same a b := (∀ k, (kget (asRMap a) k).isSome = (kget (asRMap b) k).isSome) ∧
    (ko = false → ∀ k pv cv, kget (asRMap a) k = some pv → kget (asRMap b) k = some cv → veq pv cv = true)
  equiv a f := (∀ k, (kget (asRMap a) k).isSome = (kget (asRMap f) k).isSome) ∧
    (ko = false → ∀ k av fv, kget (asRMap a) k = some av → kget (asRMap f) k = some fv → R.equiv av fv)
  post f b r := (∀ k, (kget (asRMap r) k).isSome = (kget (asRMap b) k).isSome) ∧
    ∀ k cv rv, kget (asRMap b) k = some cv → kget (asRMap r) k = some rv →
      rv = cv ∨ ∃ fv, kget (asRMap f) k = some fv ∧ (if ko then rv = fv else R.post fv cv rv)

theorem nested_veq (S : TySem) (a b : Val) : (nestedOf S).veq a b = veq a b := rfl

/-- what a retained key's value becomes: the base's value, left alone (key-only mode, or `==` values) or patched in
place by the nested diff -/
theorem patch_spec (S : TySem) (R : TyRel) (hS : TySpec S R) (ko : Bool) (pv cv fv rv : Val) (hp : R.wt pv) (hc : R.wt cv)
    (hf : R.wt fv) (he : ko = false → R.equiv pv fv) (hr : rv = patchOf (nestedOf S) ko pv cv fv) :
    R.wt rv ∧ (if ko then rv = fv else R.post fv cv rv) := by
  subst hr
  cases ko with
  | true => exact ⟨hf, rfl⟩
  | false =>
    by_cases h : veq pv cv = true
    · rw [show patchOf (nestedOf S) false pv cv fv = fv by simp [patchOf, nestedOf, h]]
      exact ⟨hf, hS.veq_stay pv cv fv hp hc hf h (he rfl)⟩
    · obtain ⟨z, hz, hz2, hz3⟩ := hS.follow_mut_ref pv cv fv hp hc hf (he rfl)
      rw [show patchOf (nestedOf S) false pv cv fv = z by simp [patchOf, nestedOf, h, hz]]
      exact ⟨hz2, hz3⟩

theorem rmapPanics_false (S : TySem) (fl : KV Nat Val) (hfl : NoDupK fl) (d : RMap.Diff Nat Val Entries)
    (h : ∀ es, d = .modify es → ∀ k c fv, RMap.Change.change k c ∈ es → kget fl k = some fv → ∃ z, S.applyMut fv c = .ok z) :
    rmapPanics S fl d = false := by
  cases d with
  | replace _ => rfl
  | modify es =>
    dsimp only [rmapPanics]
    rw [List.any_eq_false]
    intro e he
    cases e with
    | insert k v => nofun
    | remove k => nofun
    | change k c =>
      dsimp only
      rw [collect_unique fl hfl]
      cases hk : kget (es.foldl remStep fl) k with
      | none => nofun
      | some v =>
        have := hk.symm.trans ((fold_rem es fl hfl).2 k)
        obtain ⟨z, hz⟩ := h es rfl k c v he (Option.some_eq_ite_none_left.mp this).2.symm
        simp [hz]

theorem recmap_spec (ko : Bool) (S : TySem) (R : TyRel) (hS : TySpec S R) :
    FieldSpec (recMapField ko S) (recMapRel ko R) := by
  refine .ofCore (ref_eq := rfl) ?refl ?none_iff ?follow ?same_stay ?post_equiv ?veq_same
  case refl =>
    rintro _ ⟨m, rfl, _, hv⟩
    refine ⟨fun _ => rfl, fun _ k av fv h1 h2 => ?_⟩
    cases h1.symm.trans h2
    exact hS.refl av (hv k av h1)
  case none_iff =>
    rintro _ _ ⟨am, rfl, han, _⟩ ⟨bm, rfl, hbn, _⟩
    exact Option.map_eq_none_iff.trans (hashcmp_none_iff (nestedOf S) am.toList bm.toList han hbn ko)
  case follow =>
    rintro _ _ _ p ⟨am, rfl, han, hav⟩ ⟨bm, rfl, hbn, hbv⟩ ⟨fm, rfl, hfn, hfv⟩ ⟨hek, hev⟩ hp
    obtain ⟨d, hd, rfl⟩ : ∃ d, hashcmp (nestedOf S) am.toList bm.toList ko = some d ∧ Payload.rmap d = p :=
      Option.map_eq_some_iff.mp hp
    have hnp : rmapPanics S fm.toList d = false := by
      refine rmapPanics_false S _ hfn d ?_
      rintro es rfl k c fv hmem hfk
      obtain ⟨pv, cv, h1, h2, hko, rfl⟩ := mem_hashcmp_change (nestedOf S) ko _ _ han hbn es hd k c hmem
      obtain ⟨z, hz, _⟩ := hS.follow_mut_ref pv cv fv (hav k pv h1) (hbv k cv h2) (hfv k fv hfk) (hev hko k pv fv h1 hfk)
      exact ⟨z, hz⟩
    obtain ⟨hnd, hks, hkv⟩ := hashcmp_follow (nestedOf S) ko am.toList bm.toList fm.toList han hbn hfn hek d hd
    have key : ∀ k cv rv, kget bm.toList k = some cv → kget (RMap.apply (nestedOf S) fm.toList d) k = some rv →
        R.wt rv ∧ (rv = cv ∨ ∃ fv, kget fm.toList k = some fv ∧ (if ko then rv = fv else R.post fv cv rv)) := by
      intro k cv rv hbk hrk
      rcases hkv k cv rv hbk hrk with rfl | ⟨pv, fv, h1, h2, hr⟩
      · exact ⟨hbv k rv hbk, .inl rfl⟩
      · obtain ⟨hw, hp⟩ := patch_spec S R hS ko pv cv fv rv (hav k pv h1) (hbv k cv hbk) (hfv k fv h2)
          (fun hko => hev hko k pv fv h1 h2) hr
        exact ⟨hw, .inr ⟨fv, h2, hp⟩⟩
    rw [← RMapV.toList_ofList (RMap.apply (nestedOf S) fm.toList d)] at hnd hks key
    refine ⟨.rmap (.ofList (RMap.apply (nestedOf S) fm.toList d)), if_neg (hnp ▸ Bool.false_ne_true),
      ⟨_, rfl, hnd, fun k w hw => ?_⟩, hks, fun k cv rv hbk hrk => (key k cv rv hbk hrk).2⟩
    obtain ⟨cv, hbk⟩ := Option.isSome_iff_exists.mp ((hks k).symm.trans (congrArg Option.isSome hw))
    exact (key k cv w hbk hw).1
  case same_stay =>
    rintro _ _ _ ⟨am, rfl, han, hav⟩ ⟨bm, rfl, hbn, hbv⟩ ⟨fm, rfl, hfn, hfv⟩ ⟨hek, hev⟩ ⟨hsk, hsv⟩
    refine ⟨fun k => (hek k).symm.trans (hsk k), fun k cv rv hbk hfk => .inr ⟨rv, hfk, ?_⟩⟩
    cases ko with
    | true => rfl
    | false =>
      obtain ⟨pv, hak⟩ := Option.isSome_iff_exists.mp ((hsk k).trans (congrArg Option.isSome hbk))
      exact hS.veq_stay pv cv rv (hav k pv hak) (hbv k cv hbk) (hfv k rv hfk) (hsv rfl k pv cv hak hbk) (hev rfl k pv rv hak hfk)
  case post_equiv =>
    rintro _ _ _ ⟨fm, rfl, _, hfv⟩ ⟨bm, rfl, _, hbv⟩ ⟨rm, rfl, _, hrv⟩ ⟨hk, hv⟩
    refine ⟨fun k => (hk k).symm, fun hko k cv rv hbk hrk => ?_⟩
    rcases hv k cv rv hbk hrk with rfl | ⟨fv, hfk, h⟩
    · exact hS.refl rv (hrv k rv hrk)
    · subst hko
      exact hS.post_equiv fv cv rv (hfv k fv hfk) (hbv k cv hbk) (hrv k rv hrk) h
  case veq_same =>
    rintro _ _ ⟨am, rfl, _, _⟩ ⟨bm, rfl, _, _⟩ h
    exact ⟨fun k => (veqm_kget am bm h k).1, fun _ k => (veqm_kget am bm h k).2⟩

end RecMap

end Derive
