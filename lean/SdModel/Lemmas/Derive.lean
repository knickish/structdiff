import SdModel.Model.Derive
import SdModel.Lemmas.Veq

/-!
Framework for the derive-level theorems (C01–C06, C13, C15): `FieldRel` is the typing and the three relations of one
field template (strategy equality `same`, follower relation `equiv`, and `post f b r` = "r is what applying diff(a, b)
to the base f must look like"), `FieldSpec F R` what a template has to satisfy, `TySpec S R` the same for a derived
type; a struct whose fields satisfy `FieldSpec` satisfies `TySpec` (`struct_spec`, recursion over the field list only).
-/
namespace Derive

structure FieldRel where
  wt : Val → Prop
  same : Val → Val → Prop
  equiv : Val → Val → Prop           -- `equiv leader follower`
  post : Val → Val → Val → Prop      -- `post base target result`

structure FieldSpec (F : FieldSem) (R : FieldRel) : Prop where
  refl : ∀ a, R.wt a → R.equiv a a
  /-- `a.diff(&a)` is empty when `==` is reflexive on `a` (no `NaN` inside) -/
  same_refl : ∀ a, R.wt a → veq a a = true → R.same a a
  none_iff : ∀ a b, R.wt a → R.wt b → (F.diff a b = none ↔ R.same a b)
  follow : ∀ a b f p, R.wt a → R.wt b → R.wt f → R.equiv a f → F.diff a b = some p →
    ∃ r, F.apply f p = .ok r ∧ R.wt r ∧ R.post f b r
  stay : ∀ a b f, R.wt a → R.wt b → R.wt f → R.equiv a f → F.diff a b = none → R.post f b f
  post_equiv : ∀ f b r, R.wt f → R.wt b → R.wt r → R.post f b r → R.equiv b r
  ref_eq : ∀ a b, F.diffRef a b = F.diff a b
  veq_same : ∀ a b, R.wt a → R.wt b → veq a b = true → R.same a b

structure TyRel where
  wt : Val → Prop
  equiv : Val → Val → Prop
  post : Val → Val → Val → Prop

structure TySpec (S : TySem) (R : TyRel) : Prop where
  refl : ∀ a, R.wt a → R.equiv a a
  self : ∀ a, R.wt a → veq a a = true → S.diff a a = []
  follow : ∀ a b f, R.wt a → R.wt b → R.wt f → R.equiv a f →
    ∃ r, S.apply f (S.diff a b) = .ok r ∧ R.wt r ∧ R.post f b r
  post_equiv : ∀ f b r, R.wt f → R.wt b → R.wt r → R.post f b r → R.equiv b r
  ref_eq : ∀ a b, S.diffRef a b = S.diff a b
  /-- values that are `==` (under the derived `PartialEq`, which also looks at skipped fields) have an empty diff -/
  veq_nodiff : ∀ a b, R.wt a → R.wt b → veq a b = true → S.diff a b = []

/-- `FieldSpec` from fewer obligations: `same_refl` is `veq_same` at `b = a`, and `stay` follows from `none_iff` once
the relations alone give `same a b → equiv a f → post f b f`; `ref_eq` is asked for as an equation of functions, the
form in which it rewrites under the `match` of a template without destructing the arguments.  The obligations can be
given by name (`(refl := …) (none_iff := …)`), in any order -/
theorem FieldSpec.ofCore {F : FieldSem} {R : FieldRel}
    (refl : ∀ a, R.wt a → R.equiv a a)
    (none_iff : ∀ a b, R.wt a → R.wt b → (F.diff a b = none ↔ R.same a b))
    (follow : ∀ a b f p, R.wt a → R.wt b → R.wt f → R.equiv a f → F.diff a b = some p →
      ∃ r, F.apply f p = .ok r ∧ R.wt r ∧ R.post f b r)
    (same_stay : ∀ a b f, R.wt a → R.wt b → R.wt f → R.equiv a f → R.same a b → R.post f b f)
    (post_equiv : ∀ f b r, R.wt f → R.wt b → R.wt r → R.post f b r → R.equiv b r)
    (ref_eq : F.diffRef = F.diff)
    (veq_same : ∀ a b, R.wt a → R.wt b → veq a b = true → R.same a b) : FieldSpec F R where
  refl := refl
  same_refl a ha := veq_same a a ha ha
  none_iff := none_iff
  follow := follow
  stay a b f ha hb hf he hd := same_stay a b f ha hb hf he ((none_iff a b ha hb).mp hd)
  post_equiv := post_equiv
  ref_eq a b := by rw [ref_eq]
  veq_same := veq_same

theorem TySpec.diffRef_eq {S : TySem} {R : TyRel} (h : TySpec S R) : S.diffRef = S.diff :=
  funext fun a => funext (h.ref_eq a)

/-- a follower equivalent to `a`, when `a == b` under the derived `PartialEq`: nothing is sent and the follower stays -/
theorem TySpec.veq_stay {S : TySem} {R : TyRel} (h : TySpec S R) (a b f : Val) (ha : R.wt a) (hb : R.wt b) (hf : R.wt f)
    (hv : veq a b = true) (he : R.equiv a f) : R.post f b f := by
  obtain ⟨r, h1, _, h3⟩ := h.follow a b f ha hb hf he
  rw [h.veq_nodiff a b ha hb hv] at h1
  cases h1
  exact h3

/-- applying the empty diff: what a follower equivalent to `a` looks like against `a` itself -/
theorem TySpec.stay {S : TySem} {R : TyRel} (h : TySpec S R) (a f : Val) (ha : R.wt a) (hf : R.wt f) (he : R.equiv a f)
    (hr : veq a a = true) : R.post f a f :=
  h.veq_stay a a f ha ha hf hr he

/-! ### the three default methods are the same fold (C06) -/

theorem applyMut_eq_apply (S : TySem) (x : Val) (es : Entries) : S.applyMut x es = S.apply x es := by
  induction es generalizing x with
  | nil => rfl
  | cons e es ih =>
    dsimp only [TySem.applyMut, TySem.apply]
    cases S.applySingle x e with
    | ok x' => exact ih x'
    | error m => rfl

theorem applyRef_eq_apply (S : TySem) (x : Val) (es : Entries) : S.applyRef x es = S.apply x es := rfl

/-- `follow` for the calls the recursive map makes: `apply_mut` of a `diff_ref` -/
theorem TySpec.follow_mut_ref {S : TySem} {R : TyRel} (h : TySpec S R) (a b f : Val) (ha : R.wt a) (hb : R.wt b) (hf : R.wt f)
    (he : R.equiv a f) : ∃ r, S.applyMut f (S.diffRef a b) = .ok r ∧ R.wt r ∧ R.post f b r := by
  rw [applyMut_eq_apply, h.ref_eq]
  exact h.follow a b f ha hb hf he

abbrev FS := List (Bool × FieldSem × FieldRel)

def fieldsOf (fs : FS) : Fields := fs.map fun x => (x.1, x.2.1)

def SWT : FS → Vals → Prop
  | [], .nil => True
  | (_, _, R) :: fs, .cons v vs => R.wt v ∧ SWT fs vs
  | _, _ => False

def SEquiv : FS → Vals → Vals → Prop
  | [], .nil, .nil => True
  | (skip, _, R) :: fs, .cons a as, .cons f fr => (skip = true ∨ R.equiv a f) ∧ SEquiv fs as fr
  | _, _, _ => False

def SPost : FS → Vals → Vals → Vals → Prop
  | [], .nil, .nil, .nil => True
  | (skip, _, R) :: fs, .cons f fr, .cons b bs, .cons r rs => (if skip = true then r = f else R.post f b r) ∧ SPost fs fr bs rs
  | _, _, _, _ => False

def structRel (fs : FS) : TyRel where
  wt v := ∃ vs, v = .strct vs ∧ SWT fs vs
  equiv a f := ∃ x y, a = .strct x ∧ f = .strct y ∧ SEquiv fs x y
  post f b r := ∃ x y z, f = .strct x ∧ b = .strct y ∧ r = .strct z ∧ SPost fs x y z

def AllGe (lo : Nat) : Entries → Prop
  | [] => True
  | (j, _) :: rest => lo ≤ j ∧ AllGe lo rest

theorem AllGe.mono {lo lo' : Nat} (h : lo' ≤ lo) : ∀ es, AllGe lo es → AllGe lo' es
  | [], _ => trivial
  | (_, _) :: rest, ⟨h1, h2⟩ => ⟨Nat.le_trans h h1, AllGe.mono h rest h2⟩

theorem fieldsOf_cons (e : Bool × FieldSem × FieldRel) (fs : FS) : fieldsOf (e :: fs) = (e.1, e.2.1) :: fieldsOf fs := rfl

theorem sdiffG_cons (sel : FieldSem → Val → Val → Option Payload) (sk : Bool) (F : FieldSem) (fs : Fields) (i : Nat)
    (a b : Val) (as bs : Vals) :
    sdiffG sel ((sk, F) :: fs) i (.cons a as) (.cons b bs) =
      ((if sk then none else sel F a b).toList.map fun p => (i, p)) ++ sdiffG sel fs (i + 1) as bs := by
  rw [sdiffG]
  cases sk
  · cases sel F a b <;> rfl
  · rfl

theorem sdiffG_allGe (sel : FieldSem → Val → Val → Option Payload) (fs : Fields) (i : Nat) (a b : Vals) :
    AllGe i (sdiffG sel fs i a b) := by
  fun_induction sdiffG sel fs i a b
  · rename_i ih; exact ih.mono (Nat.le_succ _)
  · rename_i ih; exact ⟨Nat.le_refl _, ih.mono (Nat.le_succ _)⟩
  · rename_i ih; exact ih.mono (Nat.le_succ _)
  · trivial

/-- apply a list of entries at struct level (the fold `structSem.apply` performs, on `Vals`) -/
def sapplyG (fs : Fields) (i : Nat) : Vals → Entries → Except String Vals
  | vs, [] => .ok vs
  | vs, e :: rest => match sapplyOne fs i e vs with
    | .ok vs' => sapplyG fs i vs' rest
    | .error m => .error m

theorem sapplyG_cons_ok {fs : Fields} {i : Nat} {e : Entry} {vs vs' : Vals} (rest : Entries)
    (h : sapplyOne fs i e vs = .ok vs') : sapplyG fs i vs (e :: rest) = sapplyG fs i vs' rest := by
  rw [sapplyG, h]

theorem structSem_diff (fs : Fields) (x y : Vals) :
    (structSem fs).diff (.strct x) (.strct y) = sdiffG (·.diff) fs 0 x y := rfl

theorem structSem_apply (fs : Fields) (vs : Vals) (es : Entries) :
    (structSem fs).apply (.strct vs) es = (sapplyG fs 0 vs es).map .strct := by
  induction es generalizing vs with
  | nil => rfl
  | cons e es ih =>
    dsimp only [TySem.apply, structSem, sapplyG]
    cases sapplyOne fs 0 e vs with
    | ok vs' => exact ih vs'
    | error m => rfl

/-- frame: entries for later fields do not touch (nor are disturbed by) the head field -/
theorem sapplyG_cons_of_allGe (sk : Bool) (F : FieldSem) (fs : Fields) (i : Nat) (v : Val) (vs : Vals) :
    ∀ es, AllGe (i + 1) es →
      sapplyG ((sk, F) :: fs) i (.cons v vs) es = (sapplyG fs (i + 1) vs es).map (Vals.cons v) := by
  intro es
  induction es generalizing vs with
  | nil => intro _; rfl
  | cons e rest ih =>
    obtain ⟨j, p⟩ := e
    rintro ⟨h1, h2⟩
    unfold sapplyG
    rw [sapplyOne, if_neg (Nat.ne_of_lt h1)]
    cases sapplyOne fs (i + 1) (j, p) vs with
    | ok vs' => exact ih vs' h2
    | error m => rfl

theorem sapplyG_head (F : FieldSem) (fs : Fields) (i : Nat) (v v' : Val) (vs : Vals) (p : Payload) (es : Entries)
    (h : F.apply v p = .ok v') (hge : AllGe (i + 1) es) :
    sapplyG ((false, F) :: fs) i (.cons v vs) ((i, p) :: es) = (sapplyG fs (i + 1) vs es).map (Vals.cons v') := by
  rw [sapplyG, sapplyOne, if_pos rfl, h]
  exact sapplyG_cons_of_allGe _ _ _ _ _ _ _ hge

theorem sdiffG_ref (fs : FS) (hs : ∀ x ∈ fs, FieldSpec x.2.1 x.2.2) (i : Nat) (a b : Vals) :
    sdiffG (·.diffRef) (fieldsOf fs) i a b = sdiffG (·.diff) (fieldsOf fs) i a b := by
  induction fs generalizing i a b with
  | nil => cases a <;> cases b <;> rfl
  | cons x fs ih =>
    obtain ⟨hF, hs⟩ := List.forall_mem_cons.mp hs
    cases a with
    | nil => rfl
    | cons a0 as =>
      cases b with
      | nil => rfl
      | cons b0 bs => rw [fieldsOf_cons, sdiffG_cons, sdiffG_cons, ih hs, hF.ref_eq]

theorem struct_follow_vals (fs : FS) (hs : ∀ x ∈ fs, FieldSpec x.2.1 x.2.2) (i : Nat) (a b f : Vals)
    (ha : SWT fs a) (hb : SWT fs b) (hf : SWT fs f) (he : SEquiv fs a f) :
    ∃ r, sapplyG (fieldsOf fs) i f (sdiffG (·.diff) (fieldsOf fs) i a b) = .ok r ∧ SWT fs r ∧ SPost fs f b r := by
  fun_induction SEquiv fs a f generalizing i b with
  | case1 => cases b with | nil => exact ⟨.nil, rfl, trivial, trivial⟩ | cons _ _ => exact hb.elim
  | case3 => exact he.elim
  | case2 sk F R fs a0 as f0 fr ih =>
    cases b with
    | nil => exact hb.elim
    | cons b0 bs =>
    obtain ⟨hF, hs⟩ := List.forall_mem_cons.mp hs
    obtain ⟨r', hr1, hr2, hr3⟩ := ih hs (i + 1) bs ha.2 hb.2 hf.2 he.2
    have hge := sdiffG_allGe (·.diff) (fieldsOf fs) (i + 1) as bs
    have tail (v : Val) : (sapplyG (fieldsOf fs) (i + 1) fr (sdiffG (·.diff) (fieldsOf fs) (i + 1) as bs)).map (Vals.cons v)
        = .ok (.cons v r') := by rw [hr1]; rfl
    rw [fieldsOf_cons, sdiffG_cons]
    cases sk with
    | true => exact ⟨.cons f0 r', (sapplyG_cons_of_allGe _ _ _ _ _ _ _ hge).trans (tail f0), ⟨hf.1, hr2⟩, rfl, hr3⟩
    | false =>
      have heq : R.equiv a0 f0 := he.1.resolve_left Bool.false_ne_true
      cases hd : F.diff a0 b0 with
      | none =>
        exact ⟨.cons f0 r', (sapplyG_cons_of_allGe _ _ _ _ _ _ _ hge).trans (tail f0), ⟨hf.1, hr2⟩,
          hF.stay a0 b0 f0 ha.1 hb.1 hf.1 heq hd, hr3⟩
      | some p =>
        obtain ⟨r0, h0, hw0, hp0⟩ := hF.follow a0 b0 f0 p ha.1 hb.1 hf.1 heq hd
        exact ⟨.cons r0 r', (sapplyG_head F _ i f0 r0 fr p _ h0 hge).trans (tail r0), ⟨hw0, hr2⟩, hp0, hr3⟩

theorem sequiv_refl (fs : FS) (hs : ∀ x ∈ fs, FieldSpec x.2.1 x.2.2) (vs : Vals) (hw : SWT fs vs) : SEquiv fs vs vs := by
  fun_induction SWT fs vs with
  | case1 => trivial
  | case2 _ _ R fs v vs ih =>
    obtain ⟨hF, hs⟩ := List.forall_mem_cons.mp hs
    exact ⟨.inr (hF.refl v hw.1), ih hs hw.2⟩
  | case3 => exact hw.elim

theorem spost_sequiv (fs : FS) (hs : ∀ x ∈ fs, FieldSpec x.2.1 x.2.2) (x y z : Vals)
    (hx : SWT fs x) (hy : SWT fs y) (hz : SWT fs z) (hp : SPost fs x y z) : SEquiv fs y z := by
  fun_induction SPost fs x y z with
  | case1 => trivial
  | case2 sk _ R fs f fr b bs r rs ih =>
    obtain ⟨hF, hs⟩ := List.forall_mem_cons.mp hs
    refine ⟨?_, ih hs hx.2 hy.2 hz.2 hp.2⟩
    cases sk with
    | true => exact .inl rfl
    | false => exact .inr (hF.post_equiv f b r hx.1 hy.1 hz.1 hp.1)
  | case3 => exact hp.elim

theorem sdiffG_veqs (fs : FS) (hs : ∀ x ∈ fs, FieldSpec x.2.1 x.2.2) (i : Nat) (a b : Vals)
    (ha : SWT fs a) (hb : SWT fs b) (he : veqs a b = true) : sdiffG (·.diff) (fieldsOf fs) i a b = [] := by
  induction fs generalizing i a b with
  | nil => cases a <;> cases b <;> rfl
  | cons x fs ih =>
    obtain ⟨sk, F, R⟩ := x
    obtain ⟨hF, hs⟩ := List.forall_mem_cons.mp hs
    cases a with
    | nil => rfl
    | cons a0 as =>
      cases b with
      | nil => rfl
      | cons b0 bs =>
        obtain ⟨h0, he⟩ := Bool.and_eq_true_iff.mp he
        rw [fieldsOf_cons, sdiffG_cons, ih hs (i + 1) as bs ha.2 hb.2 he,
          (hF.none_iff a0 b0 ha.1 hb.1).mpr (hF.veq_same a0 b0 ha.1 hb.1 h0), ite_self]
        rfl

theorem struct_spec (fs : FS) (hs : ∀ x ∈ fs, FieldSpec x.2.1 x.2.2) :
    TySpec (structSem (fieldsOf fs)) (structRel fs) where
  refl := by
    rintro _ ⟨vs, rfl, hw⟩
    exact ⟨vs, vs, rfl, rfl, sequiv_refl fs hs vs hw⟩
  self := by
    rintro _ ⟨vs, rfl, hw⟩ hv
    exact sdiffG_veqs fs hs 0 vs vs hw hw hv
  follow := by
    rintro _ _ _ ⟨x, rfl, hx⟩ ⟨y, rfl, hy⟩ ⟨z, rfl, hz⟩ ⟨_, _, e1, e2, he⟩
    cases e1; cases e2
    obtain ⟨r, h1, h2, h3⟩ := struct_follow_vals fs hs 0 x y z hx hy hz he
    refine ⟨.strct r, ?_, ⟨r, rfl, h2⟩, ⟨z, y, r, rfl, rfl, rfl, h3⟩⟩
    rw [structSem_apply, structSem_diff, h1]; rfl
  post_equiv := by
    rintro _ _ _ ⟨x, rfl, hx⟩ ⟨y, rfl, hy⟩ ⟨z, rfl, hz⟩ ⟨_, _, _, e1, e2, e3, hp⟩
    cases e1; cases e2; cases e3
    exact ⟨y, z, rfl, rfl, spost_sequiv fs hs x y z hx hy hz hp⟩
  ref_eq := by
    intro a b
    dsimp only [structSem]
    split
    · exact sdiffG_ref fs hs 0 _ _
    · rfl
  veq_nodiff := by
    rintro _ _ ⟨x, rfl, hx⟩ ⟨y, rfl, hy⟩ he
    exact sdiffG_veqs fs hs 0 x y hx hy he

end Derive
