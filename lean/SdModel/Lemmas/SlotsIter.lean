import SdModel.Lemmas.Slots

/-!
Iteration over a slot array (C10).  The table `get_lookups` builds lists the storage positions in logical order
(`lookups_spec`), so reading through it is reading by logical index (`iterAt_lookups`) and no two indices share an
occupied cell (`lookups_inj`).  The owning iterator clears what it yields and keeps the table: its state is a window
`[lo, hi)` over the logical sequence (`OInv`), `next` takes `lo`, `next_back` takes `hi - 1`.
-/
namespace Slots
variable {α : Type}

/-- `a ≤ b` on lookup keys (`none` first) -/
def kle (a b : Option Nat) : Prop := (!keyLt b a) = true

theorem kle_trans (a b c : Option Nat) (h1 : kle a b) (h2 : kle b c) : kle a c := by
  cases a <;> cases b <;> cases c <;> simp_all [kle, keyLt] <;> exact Nat.le_trans h1 h2

theorem kle_antisymm (a b : Option Nat) (h1 : kle a b) (h2 : kle b a) : a = b := by
  cases a <;> cases b <;> simp_all [kle, keyLt] <;> exact Nat.le_antisymm h1 h2

theorem kle_total (a b : Option Nat) : kle a b ∨ kle b a := by
  cases a <;> cases b <;> simp [kle, keyLt] <;> omega

/-- ties keep their order: the singleton goes on the right -/
theorem insLookup_eq_merge (x : Nat × Option Nat) (l : List (Nat × Option Nat)) :
    insLookup x l = List.merge l [x] (fun a b => !keyLt b.2 a.2) := by
  induction l with
  | nil => rw [List.nil_merge]; rfl
  | cons y t ih =>
    rw [insLookup, List.cons_merge_cons, List.merge_right, ← ih]
    cases keyLt x.2 y.2 <;> rfl

theorem sortLookup_perm (l : List (Nat × Option Nat)) : (sortLookup l).Perm l := by
  induction l with
  | nil => exact List.Perm.refl _
  | cons x t ih =>
    rw [sortLookup, insLookup_eq_merge]
    exact ((List.merge_perm_append _).trans (List.perm_append_singleton ..)).trans (ih.cons x)

theorem sortLookup_sorted (l : List (Nat × Option Nat)) : (sortLookup l).Pairwise fun a b => kle a.2 b.2 := by
  induction l with
  | nil => exact List.Pairwise.nil
  | cons x t ih =>
    rw [sortLookup, insLookup_eq_merge]
    have htrans : ∀ a b c : Nat × Option Nat, kle a.2 b.2 → kle b.2 c.2 → kle a.2 c.2 := fun a b c => kle_trans a.2 b.2 c.2
    have htotal : ∀ a b : Nat × Option Nat, (!keyLt b.2 a.2 || !keyLt a.2 b.2) = true := fun a b => by
      simpa [kle] using kle_total a.2 b.2
    exact List.pairwise_merge htrans htotal _ [x] ih (List.pairwise_singleton ..)

def keyOf (c : Cell α) : Option Nat := c.map (·.1)

theorem map_keyOf_perm (cs : List (Cell α)) :
    (cs.map keyOf).Perm (List.replicate (cs.length - (idxs cs).length) none ++ (idxs cs).map some) := by
  induction cs with
  | nil => rfl
  | cons c t ih =>
    rcases c with _ | ⟨j, v⟩
    · simp only [List.map_cons, keyOf, Option.map_none, idxs_none, List.length_cons, Nat.sub_add_comm (idxs_length_le t),
        List.replicate_succ, List.cons_append]
      exact List.Perm.cons _ ih
    · simp only [List.map_cons, keyOf, Option.map_some, idxs_some, List.length_cons, Nat.add_sub_add_right]
      exact (List.Perm.cons _ ih).trans List.perm_middle.symm

/-- the sorted key sequence: the free cells first, then logical 0, 1, 2, … -/
def sortedKeys (m c : Nat) : List (Option Nat) := List.replicate m none ++ (List.range c).map some

theorem sortedKeys_sorted (m c : Nat) : (sortedKeys m c).Pairwise kle := by
  simp only [sortedKeys, List.pairwise_append, List.pairwise_map]
  refine ⟨?_, ?_, ?_⟩
  · exact List.pairwise_replicate.mpr (.inr rfl)
  · apply List.Pairwise.imp _ List.pairwise_lt_range
    intro a b hab
    simp only [kle, keyLt, Bool.not_eq_true', decide_eq_false_iff_not]; exact Nat.lt_asymm hab
  · intro a ha b _
    obtain rfl := List.eq_of_mem_replicate ha
    cases b <;> rfl

theorem findIdx?_sortedKeys (m c : Nat) (hc : 0 < c) : (sortedKeys m c).findIdx? (·.isSome) = some m := by
  obtain ⟨c, rfl⟩ := Nat.exists_eq_add_one.mpr hc
  simp [sortedKeys, List.findIdx?_append, List.findIdx?_replicate, List.range_succ_eq_map, List.findIdx?_cons]

/-- the list `get_lookups` sorts -/
def rawLookups (cs : List (Cell α)) : List (Nat × Option Nat) := cs.zipIdx.map fun (c, i) => (i, keyOf c)

theorem rawLookups_keys (cs : List (Cell α)) : (rawLookups cs).map (·.2) = cs.map keyOf := by
  rw [rawLookups, List.map_map]
  exact (List.map_map (f := Prod.fst) (g := keyOf)).symm.trans (congrArg _ (List.zipIdx_map_fst 0 cs))

theorem mem_rawLookups (cs : List (Cell α)) (st : Nat) (k : Option Nat) :
    (st, k) ∈ rawLookups cs ↔ ∃ c, cs[st]? = some c ∧ k = keyOf c := by
  simp only [rawLookups, List.mem_map]
  constructor
  · rintro ⟨⟨c, i⟩, hm, he⟩
    simp only [Prod.mk.injEq] at he
    obtain ⟨rfl, rfl⟩ := he
    exact ⟨c, List.mem_zipIdx_iff_getElem?.mp hm, rfl⟩
  · rintro ⟨c, hc, rfl⟩
    exact ⟨(c, st), List.mem_zipIdx_iff_getElem?.mpr hc, rfl⟩

theorem sortLookup_keys {N : Nat} {s : AM α} (hI : Inv N s) :
    ((sortLookup (rawLookups s.cells)).map (·.2)) = sortedKeys (N - s.cnt) s.cnt := by
  apply List.Perm.eq_of_pairwise (le := kle)
  · intro a b _ _ h1 h2; exact kle_antisymm a b h1 h2
  · rw [List.pairwise_map]; exact sortLookup_sorted _
  · exact sortedKeys_sorted _ _
  · refine ((sortLookup_perm _).map _).trans ?_
    rw [rawLookups_keys]
    refine (map_keyOf_perm s.cells).trans ?_
    rw [hI.idxs_length, hI.length_cells]
    exact List.Perm.append_left _ (hI.perm.map _)

theorem getLookups_eq (cs : List (Cell α)) :
    getLookups cs =
      (List.range cs.length).map fun i =>
        ((sortLookup (rawLookups cs))[((sortLookup (rawLookups cs)).findIdx? fun x => x.2.isSome).getD 0 + i]?).map (·.1) := rfl

theorem getElem?_range_some {n a b : Nat} (h : (List.range n)[a]? = some b) : b = a := by
  obtain ⟨w, e⟩ := List.getElem?_eq_some_iff.mp h
  rw [List.getElem_range] at e; exact e.symm

theorem lookups_spec {N : Nat} {s : AM α} (hI : Inv N s) (hpos : 0 < s.cnt) (i st : Nat) :
    (getLookups s.cells)[i]? = some (some st) ↔ posOf i s.cells = some st := by
  have hk := sortLookup_keys hI
  have hcN : s.cnt ≤ N := hI.cnt_le
  have hmem := fun x => (sortLookup_perm (rawLookups s.cells)).mem_iff (a := x)
  rw [getLookups_eq]
  generalize sortLookup (rawLookups s.cells) = tmp at hk hmem ⊢
  have hstart : (tmp.findIdx? fun x => x.2.isSome).getD 0 = N - s.cnt := by
    have := findIdx?_sortedKeys (N - s.cnt) s.cnt hpos
    rw [← hk, List.findIdx?_map] at this
    exact congrArg (·.getD 0) this
  -- behind the `N - cnt` free cells the keys are 0, 1, 2, …, so entry `i` from there is the cell of logical index `i`
  have hocc : (tmp.drop (N - s.cnt)).map (·.2) = (List.range s.cnt).map some := by
    rw [List.map_drop, hk, sortedKeys, List.drop_left' (List.length_replicate ..)]
  have entry : ∀ x, tmp[N - s.cnt + i]? = some x → posOf i s.cells = some x.1 := by
    intro ⟨st, k⟩ h
    have hk' := congrArg (·[i]?) hocc
    simp only [List.getElem?_map, List.getElem?_drop, h, Option.map_some] at hk'
    obtain ⟨j, hj, rfl⟩ := Option.map_eq_some_iff.mp hk'.symm
    obtain rfl := getElem?_range_some hj
    obtain ⟨c, hc, hkc⟩ := (mem_rawLookups s.cells st (some j)).mp ((hmem _).mp (List.mem_of_getElem? h))
    rcases c with _ | ⟨j', v⟩
    · cases hkc
    · simp only [keyOf, Option.map_some, Option.some.injEq] at hkc
      exact posOf_of_getElem hI.nodup (hkc ▸ hc)
  rw [hstart, List.getElem?_map]
  constructor
  · intro h
    obtain ⟨a, ha, h⟩ := Option.map_eq_some_iff.mp h
    obtain ⟨x, hx, rfl⟩ := Option.map_eq_some_iff.mp h
    obtain rfl := getElem?_range_some ha
    exact entry x hx
  · intro h
    obtain ⟨v, hv⟩ := posOf_getElem h
    have hi : i < s.cnt := hI.mem_idxs.mp (mem_idxs.mpr ⟨v, List.mem_of_getElem? hv⟩)
    have hlt : N - s.cnt + i < tmp.length := by
      have := congrArg List.length hocc
      simp only [List.length_map, List.length_drop, List.length_range] at this
      exact Nat.add_lt_of_lt_sub' (Nat.lt_of_lt_of_eq hi this.symm)
    have e := entry _ (List.getElem?_eq_getElem hlt)
    rw [List.getElem?_range (hI.length_cells ▸ Nat.lt_of_lt_of_le hi hcN), Option.map_some, List.getElem?_eq_getElem hlt,
      Option.map_some, ← h, e]

theorem cellVal_none_of_empty (cs : List (Cell α)) (h : idxs cs = []) (st : Nat) : cellVal cs st = none := by
  simp only [cellVal]
  rcases hc : cs[st]? with _ | _ | ⟨j, v⟩
  · rfl
  · rfl
  · have := mem_idxs.mpr ⟨v, List.mem_of_getElem? hc⟩
    rw [h] at this; cases this

theorem iterAt_eq_some {cs : List (Cell α)} {lk : List (Option Nat)} {i : Nat} {v : α} :
    iterAt cs lk i = some v ↔ ∃ st, lk[i]? = some (some st) ∧ cellVal cs st = some v := by
  simp only [iterAt]
  split
  · rename_i st e; simp [e]
  · rename_i h; simp only [reduceCtorEq, false_iff]; rintro ⟨st, e, _⟩; exact h st e

theorem iterAt_lookups {N : Nat} {s : AM α} (hI : Inv N s) (i : Nat) :
    iterAt s.cells (getLookups s.cells) i = getL s.cells i := by
  rcases Nat.eq_zero_or_pos s.cnt with h0 | hpos
  · have hnil : idxs s.cells = [] := List.length_eq_zero_iff.mp (by rw [hI.idxs_length, h0])
    rw [getL_eq_none (hnil ▸ List.not_mem_nil)]
    simp only [iterAt]
    split
    · exact cellVal_none_of_empty _ hnil _
    · rfl
  · apply Option.ext
    intro v
    rw [iterAt_eq_some]
    constructor
    · rintro ⟨st, e, hv⟩
      obtain ⟨w, hw⟩ := posOf_getElem ((lookups_spec hI hpos i st).mp e)
      rw [cellVal, hw, Option.some.injEq] at hv
      exact getL_of_mem hI.nodup (hv ▸ List.mem_of_getElem? hw)
    · intro hv
      obtain ⟨st, hst⟩ := List.getElem?_of_mem (mem_of_getL hv)
      exact ⟨st, (lookups_spec hI hpos i st).mpr (posOf_of_getElem hI.nodup hst), by rw [cellVal, hst]⟩

theorem lookups_inj {N : Nat} {s : AM α} (hI : Inv N s) (hpos : 0 < s.cnt) {i j st : Nat}
    (hi : (getLookups s.cells)[i]? = some (some st)) (hj : (getLookups s.cells)[j]? = some (some st)) : i = j := by
  obtain ⟨v, hv⟩ := posOf_getElem ((lookups_spec hI hpos i st).mp hi)
  obtain ⟨w, hw⟩ := posOf_getElem ((lookups_spec hI hpos j st).mp hj)
  rw [hv] at hw
  simp only [Option.some.injEq, Prod.mk.injEq] at hw
  exact hw.1

theorem iterFrom_spec {N : Nat} {s : AM α} (hI : Inv N s) {l : List α} (hR : Refines s l) :
    ∀ fuel pos, l.length - pos < fuel → iterFrom s.cells (getLookups s.cells) fuel pos = l.drop pos := by
  intro fuel
  induction fuel with
  | zero => nofun
  | succ fuel ih =>
    intro pos hf
    rw [iterFrom, iterAt_lookups hI, hR.2]
    by_cases hlt : pos < l.length
    · rw [List.getElem?_eq_getElem hlt, List.drop_eq_getElem_cons hlt]
      dsimp only
      rw [ih (pos + 1) (by omega)]
    · rw [List.getElem?_eq_none (Nat.le_of_not_lt hlt), List.drop_eq_nil_of_le (Nat.le_of_not_lt hlt)]

theorem iter_refines {N : Nat} {s : AM α} (hI : Inv N s) {l : List α} (hR : Refines s l) : iter s = l :=
  iterFrom_spec hI hR (s.cells.length + 1) 0 (by rw [hI.length_cells, ← hR.1]; exact Nat.lt_succ_of_le hI.cnt_le)

theorem clearAt_eq_set (cs : List (Cell α)) (st : Nat) : clearAt cs st = cs.set st none := by
  induction cs generalizing st with
  | nil => rfl
  | cons c t ih => cases st <;> simp [clearAt, ih]

theorem cellVal_clearAt_same (cs : List (Cell α)) (st : Nat) : cellVal (clearAt cs st) st = none := by
  rw [cellVal, clearAt_eq_set, List.getElem?_set, if_pos rfl]
  by_cases h : st < cs.length <;> simp only [h, if_true, if_false]

theorem cellVal_clearAt_ne (cs : List (Cell α)) (st st' : Nat) (h : st' ≠ st) :
    cellVal (clearAt cs st) st' = cellVal cs st' := by
  rw [cellVal, clearAt_eq_set, List.getElem?_set, if_neg (Ne.symm h), cellVal]

theorem OIter.next_some {it : OIter α} {st : Nat} {v : α} (h1 : it.lookups[it.pos]? = some (some st))
    (h2 : cellVal it.cells st = some v) :
    it.next = (some v, { it with cells := clearAt it.cells st, pos := it.pos + 1 }) := by
  simp only [OIter.next, h1, h2]

theorem OIter.next_none {it : OIter α} (h : iterAt it.cells it.lookups it.pos = none) : it.next = (none, it) := by
  simp only [iterAt] at h
  simp only [OIter.next]
  split
  · rename_i st e; rw [e] at h; dsimp only at h; rw [h]
  · rfl

/-- `legacy = false`: the `next_back` of the code after the fix -/
theorem OIter.nextBackG_some {it : OIter α} {st : Nat} {v : α} (h1 : it.lookups[it.revPos]? = some (some st))
    (h2 : cellVal it.cells st = some v) :
    it.nextBackG false = (some v, { it with cells := clearAt it.cells st, revPos := it.revPos - 1 }) := by
  simp only [OIter.nextBackG, h1, h2, Bool.false_eq_true, if_false]

theorem OIter.nextBackG_none {it : OIter α} (b : Bool) (h : iterAt it.cells it.lookups it.revPos = none) :
    it.nextBackG b = (none, it) := by
  simp only [iterAt] at h
  simp only [OIter.nextBackG]
  split
  · rename_i st e; rw [e] at h; dsimp only at h; rw [h]
  · rfl

/-- iterator state: `lookups` untouched, the live cells are exactly the logical positions in `[lo, hi)` -/
structure OInv (lk : List (Option Nat)) (l : List α) (it : OIter α) (lo hi : Nat) : Prop where
  lk_eq : it.lookups = lk
  pos_eq : it.pos = lo
  rev_eq : it.revPos = hi - 1
  hi_le : hi ≤ l.length
  live : ∀ i, iterAt it.cells lk i = if lo ≤ i ∧ i < hi then l[i]? else none

theorem OInv.intoIter {N : Nat} {s : AM α} (hI : Inv N s) {l : List α} (hR : Refines s l) :
    OInv (getLookups s.cells) l (intoIter s) 0 s.cnt := by
  refine ⟨rfl, rfl, rfl, Nat.le_of_eq hR.1, fun i => ?_⟩
  show iterAt s.cells _ i = _
  rw [iterAt_lookups hI, hR.2]
  split
  · rfl
  · exact List.getElem?_eq_none (by rw [← hR.1]; omega)

/-- yielding position `j` of the window: its cell is live, and clearing it takes just `j` out of the window -/
theorem OInv.yield {N : Nat} {s : AM α} (hI : Inv N s) {l : List α} (hR : Refines s l) {it : OIter α} {lo hi : Nat}
    (hinv : OInv (getLookups s.cells) l it lo hi) {j : Nat} (hj : lo ≤ j ∧ j < hi) :
    ∃ st, (getLookups s.cells)[j]? = some (some st) ∧ cellVal it.cells st = l[j]? ∧
      ∀ i, iterAt (clearAt it.cells st) (getLookups s.cells) i = if (lo ≤ i ∧ i < hi) ∧ i ≠ j then l[i]? else none := by
  have hjl : j < l.length := Nat.lt_of_lt_of_le hj.2 hinv.hi_le
  have hl := hinv.live j
  rw [if_pos hj, List.getElem?_eq_getElem hjl, iterAt_eq_some] at hl
  obtain ⟨st, e, hv⟩ := hl
  refine ⟨st, e, by rw [hv, List.getElem?_eq_getElem hjl], fun i => ?_⟩
  by_cases hij : i = j
  · rw [if_neg (·.2 hij), hij]
    simp only [iterAt, e]
    exact cellVal_clearAt_same _ _
  · rw [ite_cond_congr (propext (and_iff_left hij)), ← hinv.live i]
    simp only [iterAt]
    split
    · rename_i st' e'
      exact cellVal_clearAt_ne _ _ _ fun h => hij (lookups_inj hI (hR.1 ▸ Nat.zero_lt_of_lt hjl) e' (h ▸ e))
    · rfl

theorem OInv.next {N : Nat} {s : AM α} (hI : Inv N s) {l : List α} (hR : Refines s l) {it : OIter α} {lo hi : Nat}
    (hinv : OInv (getLookups s.cells) l it lo hi) (hlt : lo < hi) :
    ∃ it', it.next = (l[lo]?, it') ∧ OInv (getLookups s.cells) l it' (lo + 1) hi := by
  obtain ⟨st, e, hv, hlive⟩ := hinv.yield hI hR ⟨Nat.le_refl _, hlt⟩
  have hll : lo < l.length := Nat.lt_of_lt_of_le hlt hinv.hi_le
  rw [List.getElem?_eq_getElem hll] at hv ⊢
  refine ⟨_, OIter.next_some (by rw [hinv.lk_eq, hinv.pos_eq]; exact e) hv,
    hinv.lk_eq, by simp only [hinv.pos_eq], hinv.rev_eq, hinv.hi_le, fun i => ?_⟩
  show iterAt (clearAt it.cells st) _ i = _
  rw [hlive]
  exact ite_cond_congr (propext (by omega))

theorem OInv.next_empty {lk : List (Option Nat)} {l : List α} {it : OIter α} {lo hi : Nat} (hinv : OInv lk l it lo hi)
    (hge : ¬ lo < hi) : it.next = (none, it) := by
  refine OIter.next_none ?_
  rw [hinv.lk_eq, hinv.pos_eq, hinv.live, if_neg (hge ·.2)]

/-- for `legacy = false` -/
theorem OInv.nextBackG {N : Nat} {s : AM α} (hI : Inv N s) {l : List α} (hR : Refines s l) {it : OIter α} {lo hi : Nat}
    (hinv : OInv (getLookups s.cells) l it lo hi) (hlt : lo < hi) :
    ∃ it', it.nextBackG false = (l[hi - 1]?, it') ∧ OInv (getLookups s.cells) l it' lo (hi - 1) := by
  have hrev := hinv.rev_eq
  obtain ⟨st, e, hv, hlive⟩ := hinv.yield hI hR ⟨Nat.le_sub_one_of_lt hlt, Nat.sub_one_lt_of_lt hlt⟩
  have hll : hi - 1 < l.length := Nat.lt_of_lt_of_le (Nat.sub_one_lt_of_lt hlt) hinv.hi_le
  rw [List.getElem?_eq_getElem hll] at hv ⊢
  refine ⟨_, OIter.nextBackG_some (by rw [hinv.lk_eq, hrev]; exact e) hv,
    hinv.lk_eq, hinv.pos_eq, by simp only [hrev], Nat.le_trans (Nat.sub_le ..) hinv.hi_le, fun i => ?_⟩
  show iterAt (clearAt it.cells st) _ i = _
  rw [hlive]
  exact ite_cond_congr (propext (by omega))

theorem OInv.nextBackG_empty {lk : List (Option Nat)} {l : List α} {it : OIter α} {lo hi : Nat}
    (hinv : OInv lk l it lo hi) (hge : ¬ lo < hi) (b : Bool) : it.nextBackG b = (none, it) := by
  refine OIter.nextBackG_none b ?_
  rw [hinv.lk_eq, hinv.live, hinv.rev_eq, if_neg (by omega)]

/-- a double-ended queue over the logical sequence: two cursors, window `[lo, hi)` -/
def dq (l : List α) : Nat → Nat → List Bool → List (Option α)
  | _, _, [] => []
  | lo, hi, false :: bs => if lo < hi then l[lo]? :: dq l (lo + 1) hi bs else none :: dq l lo hi bs
  | lo, hi, true :: bs => if lo < hi then l[hi - 1]? :: dq l lo (hi - 1) bs else none :: dq l lo hi bs

theorem OInv.run {N : Nat} {s : AM α} (hI : Inv N s) {l : List α} (hR : Refines s l) {it : OIter α} {lo hi : Nat}
    (hinv : OInv (getLookups s.cells) l it lo hi) (bs : List Bool) : it.run false bs = dq l lo hi bs := by
  induction bs generalizing it lo hi with
  | nil => rfl
  | cons b bs ih =>
    cases b with
    | false =>
      simp only [OIter.run, dq, Bool.false_eq_true, if_false]
      by_cases hlt : lo < hi
      · obtain ⟨it', e, hinv'⟩ := hinv.next hI hR hlt
        rw [if_pos hlt, e, ih hinv']
      · rw [if_neg hlt, hinv.next_empty hlt, ih hinv]
    | true =>
      simp only [OIter.run, dq, if_true]
      by_cases hlt : lo < hi
      · obtain ⟨it', e, hinv'⟩ := hinv.nextBackG hI hR hlt
        rw [if_pos hlt, e, ih hinv']
      · rw [if_neg hlt, hinv.nextBackG_empty hlt, ih hinv]

theorem OInv.drainFwd {N : Nat} {s : AM α} (hI : Inv N s) {l : List α} (hR : Refines s l) {it : OIter α} {lo hi : Nat}
    (hinv : OInv (getLookups s.cells) l it lo hi) {fuel : Nat} (hf : hi - lo < fuel) :
    OIter.drainFwd fuel it = (l.take hi).drop lo := by
  induction fuel generalizing it lo with
  | zero => omega
  | succ fuel ih =>
    rw [OIter.drainFwd]
    by_cases hlt : lo < hi
    · obtain ⟨it', e, hinv'⟩ := hinv.next hI hR hlt
      have hll : lo < (l.take hi).length := (List.length_take_of_le hinv.hi_le).symm ▸ hlt
      rw [e, List.drop_eq_getElem_cons hll, List.getElem_take, List.getElem?_eq_getElem (Nat.lt_of_lt_of_le hlt hinv.hi_le)]
      dsimp only
      rw [ih hinv' (by omega)]
    · rw [hinv.next_empty hlt, List.drop_eq_nil_of_le (Nat.le_trans (List.length_take_le ..) (Nat.le_of_not_lt hlt))]

theorem OInv.drainBack {N : Nat} {s : AM α} (hI : Inv N s) {l : List α} (hR : Refines s l) {it : OIter α} {lo hi : Nat}
    (hinv : OInv (getLookups s.cells) l it lo hi) {fuel : Nat} (hf : hi - lo < fuel) :
    OIter.drainBack false fuel it = ((l.take hi).drop lo).reverse := by
  induction fuel generalizing it hi with
  | zero => omega
  | succ fuel ih =>
    rw [OIter.drainBack]
    by_cases hlt : lo < hi
    · obtain ⟨it', e, hinv'⟩ := hinv.nextBackG hI hR hlt
      have hll : hi - 1 < l.length := Nat.lt_of_lt_of_le (Nat.sub_one_lt_of_lt hlt) hinv.hi_le
      rw [e, List.getElem?_eq_getElem hll]
      dsimp only
      rw [ih hinv' (Nat.sub_right_comm .. ▸ Nat.sub_one_lt_of_le (Nat.sub_pos_of_lt hlt) (Nat.le_of_lt_succ hf))]
      have htake : l.take hi = l.take (hi - 1) ++ [l[hi - 1]] := by
        rw [List.take_append_getElem hll, Nat.sub_add_cancel (Nat.zero_lt_of_lt hlt)]
      rw [htake, List.drop_append_of_le_length ((List.length_take_of_le (Nat.le_of_lt hll)).symm ▸ Nat.le_sub_one_of_lt hlt),
        List.reverse_concat]
    · rw [hinv.nextBackG_empty hlt, List.drop_eq_nil_of_le (Nat.le_trans (List.length_take_le ..) (Nat.le_of_not_lt hlt))]
      rfl

end Slots
