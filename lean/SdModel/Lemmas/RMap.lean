import SdModel.Model.RMap
import SdModel.Lemmas.Assoc

/-!
Lemmas for the recursive map-like back end (C13): per-key characterisation of `hashcmp` and `apply` for maps
(association lists with pairwise distinct keys), for an arbitrary nested interface `N` and ANY base map
(so the follower statements of C02 are instances).
-/
namespace RMap
variable {κ ν δ : Type} [DecidableEq κ]

def keys (m : KV κ ν) : List κ := m.map (·.1)
def NoDupK (m : KV κ ν) : Prop := (keys m).Nodup

@[simp] theorem keys_nil : keys ([] : KV κ ν) = [] := rfl
@[simp] theorem keys_cons (k : κ) (v : ν) (m : KV κ ν) : keys ((k, v) :: m) = k :: keys m := rfl

theorem kget_eq (m : KV κ ν) (k : κ) : kget m k = Assoc.lookup m k := by
  induction m with
  | nil => rfl
  | cons e t ih => simp only [kget, Assoc.lookup, ih]

theorem kput_eq (m : KV κ ν) (k : κ) (v : ν) : kput m k v = Assoc.upsert (fun _ => v) m k := by
  induction m with
  | nil => rfl
  | cons e t ih => simp only [kput, Assoc.upsert, ih]

theorem kget_none_iff (m : KV κ ν) (k : κ) : kget m k = none ↔ k ∉ keys m := by
  rw [kget_eq]; exact Assoc.lookup_eq_none_iff m k

theorem kget_isSome_iff (m : KV κ ν) (k : κ) : (kget m k).isSome ↔ k ∈ keys m := by
  rw [kget_eq]; exact Assoc.lookup_isSome_iff m k

theorem kget_mem (m : KV κ ν) (k : κ) (v : ν) (h : kget m k = some v) : (k, v) ∈ m :=
  Assoc.mem_of_lookup (kget_eq m k ▸ h)

theorem kget_of_mem (m : KV κ ν) (hm : NoDupK m) (k : κ) (v : ν) (h : (k, v) ∈ m) : kget m k = some v := by
  rw [kget_eq]; exact Assoc.lookup_of_mem hm h

theorem kget_kput (m : KV κ ν) (k' k : κ) (v : ν) : kget (kput m k' v) k = if k' = k then some v else kget m k := by
  rw [kget_eq, kget_eq, kput_eq, Assoc.lookup_upsert]; simp only [eq_comm]

theorem nodup_kput (m : KV κ ν) (k : κ) (v : ν) (h : NoDupK m) : NoDupK (kput m k v) := by
  rw [kput_eq]; exact Assoc.nodup_upsert _ k h

theorem mem_kput (m : KV κ ν) (k : κ) (v : ν) (x : κ × ν) (h : x ∈ kput m k v) : x ∈ m ∨ x = (k, v) := by
  rw [kput_eq] at h; exact Assoc.mem_upsert h

theorem mem_collect (l : KV κ ν) (x : κ × ν) (h : x ∈ collect l) : x ∈ l :=
  List.foldlRecOn (motive := fun m => x ∈ m → x ∈ l) l _ (fun h => (List.not_mem_nil h).elim)
    (fun m ih p hp h => (mem_kput m p.1 p.2 x h).elim ih fun e => e ▸ hp) h

theorem collect_unique (l : KV κ ν) (h : NoDupK l) : collect l = l :=
  (Assoc.foldl_fresh _ id (fun m kv hk => (kput_eq m kv.1 kv.2).trans (Assoc.upsert_fresh _ hk)) l [] h).trans (List.map_id l)

theorem kget_filter (m : KV κ ν) (p : κ → Bool) (k : κ) :
    kget (m.filter fun kv => p kv.1) k = if p k then kget m k else none := by
  induction m with
  | nil => exact (ite_self none).symm
  | cons kv m ih =>
    rw [List.filter_cons]
    by_cases h1 : kv.1 = k
    · subst h1; cases hp : p kv.1 <;> simp [kget, ih, hp]
    · cases p kv.1 <;> simp [kget, ih, h1]

theorem nodup_filter (m : KV κ ν) (p : κ × ν → Bool) (h : NoDupK m) : NoDupK (m.filter p) :=
  h.sublist (List.filter_sublist.map _)

theorem kerase_eq (m : KV κ ν) (k : κ) : kerase m k = (Assoc.lookup m k, Assoc.erase m k) := by
  induction m with
  | nil => rfl
  | cons e t ih => simp only [kerase, Assoc.erase, Assoc.update, Assoc.lookup, ih]; split <;> rfl

theorem kerase_mem (m : KV κ ν) (k : κ) :
    (∀ v, (kerase m k).1 = some v → (k, v) ∈ m) ∧ (∀ x, x ∈ (kerase m k).2 → x ∈ m) := by
  rw [kerase_eq]
  exact ⟨fun v hv => Assoc.mem_of_lookup hv, fun x hx => (Assoc.mem_update hx).elim id fun ⟨_, _, h⟩ => nomatch h⟩

theorem kget_kremove (m : KV κ ν) (k' k : κ) (h : NoDupK m) :
    kget (kremove m k') k = if k' = k then none else kget m k := by
  rw [kremove, kerase_eq, kget_eq, kget_eq, Assoc.lookup_update _ k' k h, Option.bind_fun_none]
  simp only [eq_comm (a := k)]

theorem nodup_kremove (m : KV κ ν) (k : κ) (h : NoDupK m) : NoDupK (kremove m k) := by
  rw [kremove, kerase_eq]; exact Assoc.nodup_update _ k h

theorem kmodify_eq (m : KV κ ν) (k : κ) (f : ν → ν) : kmodify m k f = m.map fun e => (e.1, if k = e.1 then f e.2 else e.2) :=
  List.map_congr_left fun e _ => by simp only [eq_comm (a := k)]; split <;> rfl

theorem keys_kmodify (m : KV κ ν) (k : κ) (f : ν → ν) : keys (kmodify m k f) = keys m := by
  rw [kmodify_eq, keys, List.map_map]; rfl

theorem kget_kmodify (m : KV κ ν) (k' k : κ) (f : ν → ν) :
    kget (kmodify m k' f) k = (kget m k).map (fun v => if k' = k then f v else v) := by
  rw [kget_eq, kget_eq, kmodify_eq]; exact Assoc.lookup_map (fun x v => if k' = x then f v else v) m k

def keyOf : Change κ ν δ → κ
  | .insert k _ | .remove k | .change k _ => k

def isRem (k : κ) : Change κ ν δ → Bool
  | .remove k' => decide (k' = k)
  | _ => false

/-- the nested patches addressed to key `k`, in order -/
def chgV (N : Nested ν δ) (es : List (Change κ ν δ)) (k : κ) (v : ν) : ν :=
  es.foldl (fun v e => match e with
    | .change k' d => if k' = k then N.applyMut v d else v
    | _ => v) v

/-- the last inserted value for key `k`, else `init` -/
def insV (es : List (Change κ ν δ)) (k : κ) (init : Option ν) : Option ν :=
  es.foldl (fun acc e => match e with
    | .insert k' v => if k' = k then some v else acc
    | _ => acc) init

@[simp] theorem chgV_nil (N : Nested ν δ) (k : κ) (v : ν) : chgV N ([] : List (Change κ ν δ)) k v = v := rfl
@[simp] theorem chgV_cons_change (N : Nested ν δ) (k' : κ) (d : δ) (es : List (Change κ ν δ)) (k : κ) (v : ν) :
    chgV N (.change k' d :: es) k v = chgV N es k (if k' = k then N.applyMut v d else v) := rfl
@[simp] theorem chgV_cons_insert (N : Nested ν δ) (k' : κ) (w : ν) (es : List (Change κ ν δ)) (k : κ) (v : ν) :
    chgV N (.insert k' w :: es) k v = chgV N es k v := rfl
@[simp] theorem chgV_cons_remove (N : Nested ν δ) (k' : κ) (es : List (Change κ ν δ)) (k : κ) (v : ν) :
    chgV N (.remove k' :: es) k v = chgV N es k v := rfl
@[simp] theorem insV_nil (k : κ) (i : Option ν) : insV ([] : List (Change κ ν δ)) k i = i := rfl
@[simp] theorem insV_cons_insert (k' : κ) (w : ν) (es : List (Change κ ν δ)) (k : κ) (i : Option ν) :
    insV (.insert k' w :: es) k i = insV es k (if k' = k then some w else i) := rfl
@[simp] theorem insV_cons_change (k' : κ) (d : δ) (es : List (Change κ ν δ)) (k : κ) (i : Option ν) :
    insV (.change k' d :: es) k i = insV es k i := rfl
@[simp] theorem insV_cons_remove (k' : κ) (es : List (Change κ ν δ)) (k : κ) (i : Option ν) :
    insV (.remove k' :: es : List (Change κ ν δ)) k i = insV es k i := rfl

theorem apply_modify_eq (N : Nested ν δ) (base : KV κ ν) (es : List (Change κ ν δ)) :
    apply N base (.modify es) = es.foldl insStep (es.foldl (chgStep N) (es.foldl remStep (collect base))) := rfl

theorem fold_rem (es : List (Change κ ν δ)) (m : KV κ ν) (h : NoDupK m) :
    NoDupK (es.foldl remStep m) ∧ ∀ k, kget (es.foldl remStep m) k = if es.any (isRem k) then none else kget m k := by
  induction es generalizing m with
  | nil => exact ⟨h, fun _ => rfl⟩
  | cons e es ih =>
    cases e with
    | remove k' =>
      obtain ⟨i1, i2⟩ := ih (kremove m k') (nodup_kremove m k' h)
      refine ⟨i1, fun k => ?_⟩
      simp only [List.foldl_cons, remStep, List.any_cons, isRem]
      rw [i2 k, kget_kremove m k' k h]
      by_cases hk : k' = k <;> simp [hk]
    | insert k' _ | change k' _ => exact ih m h

theorem fold_chg (N : Nested ν δ) (es : List (Change κ ν δ)) (m : KV κ ν) :
    keys (es.foldl (chgStep N) m) = keys m ∧ ∀ k, kget (es.foldl (chgStep N) m) k = (kget m k).map (chgV N es k) := by
  induction es generalizing m with
  | nil => exact ⟨rfl, fun _ => Option.map_id'.symm⟩
  | cons e es ih =>
    cases e with
    | change k' d =>
      obtain ⟨i1, i2⟩ := ih (kmodify m k' (fun v => N.applyMut v d))
      exact ⟨i1.trans (keys_kmodify ..), fun k => by rw [List.foldl_cons, chgStep, i2 k, kget_kmodify, Option.map_map]; rfl⟩
    | insert k' _ | remove k' => exact ih m

theorem fold_ins (es : List (Change κ ν δ)) (m : KV κ ν) (h : NoDupK m) :
    NoDupK (es.foldl insStep m) ∧ ∀ k, kget (es.foldl insStep m) k = insV es k (kget m k) := by
  refine ⟨List.foldlRecOn es insStep h fun m hm e _ => ?_, fun k => (List.foldl_hom (kget · k) fun m e => ?_).symm⟩
  · cases e with
    | insert k v => exact nodup_kput m k v hm
    | change | remove => exact hm
  · cases e with
    | insert k' v => exact (kget_kput m k' k v).symm
    | change | remove => rfl

theorem apply_modify_kget (N : Nested ν δ) (base : KV κ ν) (hb : NoDupK base) (es : List (Change κ ν δ)) :
    NoDupK (apply N base (.modify es)) ∧
    ∀ k, kget (apply N base (.modify es)) k =
      insV es k ((if es.any (isRem k) then none else kget base k).map (chgV N es k)) := by
  rw [apply_modify_eq, collect_unique base hb]
  obtain ⟨r1, r2⟩ := fold_rem es base hb
  obtain ⟨c1, c2⟩ := fold_chg N es (es.foldl remStep base)
  have hc : NoDupK (es.foldl (chgStep N) (es.foldl remStep base)) := by simp only [NoDupK, c1]; exact r1
  obtain ⟨i1, i2⟩ := fold_ins es _ hc
  refine ⟨i1, fun k => ?_⟩
  rw [i2 k, c2 k, r2 k]

/-- the entry the loop emits for a key of `previous` -/
def entryOf (N : Nested ν δ) (keyOnly : Bool) (cur : KV κ ν) (kv : κ × ν) : Option (Change κ ν δ) :=
  match kget cur kv.1 with
  | none => some (.remove kv.1)
  | some cv => if !keyOnly && !(N.veq kv.2 cv) then some (.change kv.1 (N.diff kv.2 cv)) else none

theorem filterMap_congr {α β : Type} (f g : α → Option β) (l : List α) (h : ∀ x ∈ l, f x = g x) :
    l.filterMap f = l.filterMap g :=
  (List.filterMap_map (f := f) (g := id)).symm.trans ((congrArg _ (List.map_congr_left h)).trans List.filterMap_map)

theorem loopP_cons (N : Nested ν δ) (keyOnly : Bool) (k : κ) (pv : ν) (a cur : KV κ ν) :
    loopP N keyOnly ((k, pv) :: a) cur =
      ((entryOf N keyOnly cur (k, pv)).toList ++ (loopP N keyOnly a (Assoc.erase cur k)).1,
       (loopP N keyOnly a (Assoc.erase cur k)).2) := by
  simp only [loopP, kerase_eq, entryOf, kget_eq]
  cases Assoc.lookup cur k with
  | none => rfl
  | some cv => simp only []; split <;> rfl

theorem loopP_spec (N : Nested ν δ) (keyOnly : Bool) (a : KV κ ν) (ha : NoDupK a) :
    ∀ cur : KV κ ν, NoDupK cur →
      (loopP N keyOnly a cur).1 = a.filterMap (entryOf N keyOnly cur) ∧
      (loopP N keyOnly a cur).2 = cur.filter (fun kv => !decide (kv.1 ∈ keys a)) := by
  induction a with
  | nil => exact fun cur _ => ⟨rfl, (List.filter_eq_self.mpr fun _ _ => rfl).symm⟩
  | cons kv a ih =>
    obtain ⟨k, pv⟩ := kv
    intro cur hc
    simp only [NoDupK, keys_cons, List.nodup_cons] at ha
    obtain ⟨i1, i2⟩ := ih ha.2 (Assoc.erase cur k) (Assoc.nodup_update _ k hc)
    rw [loopP_cons, i1, i2, List.filterMap_cons]
    constructor
    · -- the keys of `a` are not `k`: erasing `k` from `cur` does not change what they see
      have : a.filterMap (entryOf N keyOnly (Assoc.erase cur k)) = a.filterMap (entryOf N keyOnly cur) :=
        filterMap_congr _ _ a fun x hx => by
          have hne : x.1 ≠ k := fun e => ha.1 (e ▸ List.mem_map_of_mem (f := (·.1)) hx)
          simp only [entryOf, kget_eq, Assoc.lookup_update_ne _ cur hne]
      rw [this]; cases entryOf N keyOnly cur (k, pv) <;> rfl
    · rw [Assoc.erase_eq_filter hc, List.filter_filter]
      refine List.filter_congr fun x _ => ?_
      simp only [keys_cons, List.mem_cons]
      by_cases hx : x.1 = k <;> simp [hx]

/-- the change list of the non-replacement branch -/
def entriesOf (N : Nested ν δ) (keyOnly : Bool) (a b : KV κ ν) : List (Change κ ν δ) :=
  a.filterMap (entryOf N keyOnly b) ++ (b.filter (fun kv => !decide (kv.1 ∈ keys a))).map fun (k, v) => Change.insert k v

theorem hashcmp_eq (N : Nested ν δ) (a b : KV κ ν) (ha : NoDupK a) (hb : NoDupK b) (keyOnly : Bool) :
    hashcmp N a b keyOnly =
      if (b.length : Int) < (a.length : Int) - (b.length : Int) then some (.replace b)
      else if (entriesOf N keyOnly a b).isEmpty then none else some (.modify (entriesOf N keyOnly a b)) := by
  simp only [hashcmp, collect_unique a ha, collect_unique b hb]
  obtain ⟨l1, l2⟩ := loopP_spec N keyOnly a ha b hb
  rw [l1, l2]; rfl

theorem entryOf_cases (N : Nested ν δ) (keyOnly : Bool) (b : KV κ ν) (k0 : κ) (pv : ν) :
    (kget b k0 = none ∧ entryOf N keyOnly b (k0, pv) = some (.remove k0)) ∨
    (∃ cv, kget b k0 = some cv ∧ (!keyOnly && !(N.veq pv cv)) = true ∧
      entryOf N keyOnly b (k0, pv) = some (.change k0 (N.diff pv cv))) ∨
    (∃ cv, kget b k0 = some cv ∧ (!keyOnly && !(N.veq pv cv)) = false ∧ entryOf N keyOnly b (k0, pv) = none) := by
  cases hb : kget b k0 with
  | none => left; simp [entryOf, hb]
  | some cv =>
    right
    cases hc : (!keyOnly && !(N.veq pv cv)) with
    | true => left; exact ⟨cv, rfl, hc, by simp only [entryOf, hb, hc, if_true]⟩
    | false => right; exact ⟨cv, rfl, hc, by simp only [entryOf, hb, hc, Bool.false_eq_true, if_false]⟩

/-- the nested patch a retained key receives -/
def patchOf (N : Nested ν δ) (keyOnly : Bool) (pv cv : ν) (v : ν) : ν :=
  if !keyOnly && !(N.veq pv cv) then N.applyMut v (N.diff pv cv) else v

/-- the entries that speak of key `k`, given its values in previous and current -/
def slice (N : Nested ν δ) (keyOnly : Bool) (k : κ) : Option ν → Option ν → List (Change κ ν δ)
  | some pv, some cv => if !keyOnly && !(N.veq pv cv) then [.change k (N.diff pv cv)] else []
  | some _, none => [.remove k]
  | none, some cv => [.insert k cv]
  | none, none => []

theorem keyOf_entryOf {N : Nested ν δ} {keyOnly : Bool} {b : KV κ ν} {kv : κ × ν} {e : Change κ ν δ}
    (h : entryOf N keyOnly b kv = some e) : keyOf e = kv.1 := by
  rcases entryOf_cases N keyOnly b kv.1 kv.2 with ⟨_, h'⟩ | ⟨_, _, _, h'⟩ | ⟨_, _, _, h'⟩ <;>
    rw [h] at h' <;> cases h' <;> rfl

theorem filter_filterMap_entryOf (N : Nested ν δ) (keyOnly : Bool) (a b : KV κ ν) (ha : NoDupK a) (k : κ) :
    (a.filterMap (entryOf N keyOnly b)).filter (keyOf · = k) =
      match kget a k with | some pv => (entryOf N keyOnly b (k, pv)).toList | none => [] := by
  have : ∀ x ∈ a, (entryOf N keyOnly b x).filter (keyOf · = k) = if decide (x.1 = k) then entryOf N keyOnly b x else none :=
    fun x _ => by
      cases he : entryOf N keyOnly b x with
      | none => exact (ite_self none).symm
      | some e => rw [Option.filter, keyOf_entryOf he]
  rw [List.filter_filterMap, filterMap_congr _ _ a this, ← List.filterMap_filter, Assoc.filter_key ha, kget_eq]
  cases Assoc.lookup a k with
  | none => rfl
  | some pv => cases entryOf N keyOnly b (k, pv) <;> rfl

theorem filter_map_insert (l : KV κ ν) (hl : NoDupK l) (k : κ) :
    (l.map fun (k, v) => (Change.insert k v : Change κ ν δ)).filter (keyOf · = k) =
      match kget l k with | some v => [.insert k v] | none => [] := by
  rw [List.filter_map, List.filter_congr (q := (·.1 = k)) fun e _ => by rfl, Assoc.filter_key hl, kget_eq]
  cases Assoc.lookup l k <;> rfl

theorem filter_entriesOf (N : Nested ν δ) (keyOnly : Bool) (a b : KV κ ν) (ha : NoDupK a) (hb : NoDupK b) (k : κ) :
    (entriesOf N keyOnly a b).filter (keyOf · = k) = slice N keyOnly k (kget a k) (kget b k) := by
  rw [entriesOf, List.filter_append, filter_filterMap_entryOf N keyOnly a b ha, filter_map_insert _ (nodup_filter b _ hb),
    kget_filter b (fun x => !decide (x ∈ keys a)) k]
  cases hak : kget a k with
  | none =>
    simp only [(kget_none_iff a k).mp hak, decide_false, Bool.not_false, if_true, List.nil_append]
    cases kget b k <;> rfl
  | some pv =>
    have : k ∈ keys a := (kget_isSome_iff a k).mp (by rw [hak]; rfl)
    simp only [this, decide_true, Bool.not_true, Bool.false_eq_true, if_false, List.append_nil, entryOf]
    cases kget b k with
    | none => rfl
    | some cv => exact apply_ite Option.toList ..

theorem any_isRem_filter (es : List (Change κ ν δ)) (k : κ) :
    (es.filter (keyOf · = k)).any (isRem k) = es.any (isRem k) := by
  rw [List.any_filter]
  congr 1; funext e
  cases e with
  | remove k' => by_cases h : k' = k <;> simp only [isRem, keyOf, h, decide_true, decide_false, Bool.and_self]
  | insert k' _ | change k' _ => exact Bool.and_false _

theorem chgV_filter (N : Nested ν δ) (es : List (Change κ ν δ)) (k : κ) (v : ν) :
    chgV N (es.filter (keyOf · = k)) k v = chgV N es k v := by
  rw [chgV, List.foldl_filter]
  congr 1
  funext v e
  cases e with
  | change k' d => by_cases h : k' = k <;> simp only [keyOf, h, decide_true, decide_false, if_true, if_false, Bool.false_eq_true]
  | insert | remove => exact ite_self v

theorem insV_filter (es : List (Change κ ν δ)) (k : κ) (i : Option ν) :
    insV (es.filter (keyOf · = k)) k i = insV es k i := by
  rw [insV, List.foldl_filter]
  congr 1
  funext i e
  cases e with
  | insert k' w => by_cases h : k' = k <;> simp only [keyOf, h, decide_true, decide_false, if_true, if_false, Bool.false_eq_true]
  | change | remove => exact ite_self i

theorem apply_entries_kget (N : Nested ν δ) (keyOnly : Bool) (a b f : KV κ ν)
    (ha : NoDupK a) (hb : NoDupK b) (hf : NoDupK f) (k : κ) :
    kget (apply N f (.modify (entriesOf N keyOnly a b))) k =
      match kget a k, kget b k with
      | none, some cv => some cv                                        -- new key: current's value
      | none, none => kget f k
      | some _, none => none                                            -- removed key
      | some pv, some cv => (kget f k).map (patchOf N keyOnly pv cv)    -- retained key: patched in place
    := by
  rw [(apply_modify_kget N f hf _).2 k, ← any_isRem_filter, ← insV_filter, ← funext (chgV_filter N _ k),
    filter_entriesOf N keyOnly a b ha hb]
  cases kget a k with
  | none =>
    cases kget b k with
    | none => simp only [slice, List.any_nil, Bool.false_eq_true, if_false, insV_nil]; cases kget f k <;> rfl
    | some cv => simp only [slice, insV_cons_insert, if_true, insV_nil]
  | some pv =>
    cases kget b k with
    | none =>
      simp only [slice, List.any_cons, isRem, decide_true, Bool.true_or, if_true, Option.map_none, insV_cons_remove, insV_nil]
    | some cv =>
      simp only [slice]
      split
      · rename_i hc
        simp only [List.any_cons, List.any_nil, isRem, Bool.or_self, Bool.false_eq_true, if_false, insV_cons_change,
          insV_nil]
        cases kget f k <;> simp only [Option.map_none, Option.map_some, chgV_cons_change, chgV_nil, if_true, patchOf, hc]
      · rename_i hc
        simp only [List.any_nil, Bool.false_eq_true, if_false, insV_nil]
        cases kget f k <;>
          simp only [Option.map_none, Option.map_some, chgV_nil, patchOf, hc, Bool.false_eq_true, if_false]

theorem entries_nil_iff (N : Nested ν δ) (keyOnly : Bool) (a b : KV κ ν) (ha : NoDupK a) :
    entriesOf N keyOnly a b = [] ↔
      (∀ k, (kget a k).isSome = (kget b k).isSome) ∧
      (keyOnly = false → ∀ k pv cv, kget a k = some pv → kget b k = some cv → N.veq pv cv = true) := by
  simp only [entriesOf, List.append_eq_nil_iff, List.filterMap_eq_nil_iff, List.map_eq_nil_iff, List.filter_eq_nil_iff]
  constructor
  · rintro ⟨hA, hB⟩
    have hA' : ∀ k pv, kget a k = some pv → ∃ cv, kget b k = some cv ∧ (!keyOnly && !(N.veq pv cv)) = false := by
      intro k pv hk
      have := hA (k, pv) (kget_mem a k pv hk)
      rcases entryOf_cases N keyOnly b k pv with ⟨_, hx⟩ | ⟨cv, _, _, hx⟩ | ⟨cv, hb, hc, _⟩
      · cases hx.symm.trans this
      · cases hx.symm.trans this
      · exact ⟨cv, hb, hc⟩
    constructor
    · intro k
      cases hk : kget a k with
      | some pv =>
        obtain ⟨cv, hb, _⟩ := hA' k pv hk
        simp [hb]
      | none =>
        cases hbk : kget b k with
        | none => rfl
        | some cv =>
          have := hB (k, cv) (kget_mem b k cv hbk)
          simp only [Bool.not_eq_true', Bool.not_eq_false, decide_eq_true_eq] at this
          exact absurd this ((kget_none_iff a k).mp hk)
    · intro hko k pv cv hk hbk
      obtain ⟨cv', hb', hc⟩ := hA' k pv hk
      rw [hbk] at hb'; cases hb'
      subst hko
      simpa using hc
  · rintro ⟨h1, h2⟩
    constructor
    · rintro ⟨k, pv⟩ hx
      have hk := kget_of_mem a ha k pv hx
      have hs := h1 k
      rw [hk] at hs
      cases hbk : kget b k with
      | none => rw [hbk] at hs; cases hs
      | some cv =>
        simp only [entryOf, hbk]
        cases keyOnly with
        | true => simp
        | false => simp [h2 rfl k pv cv hk hbk]
    · rintro ⟨k, cv⟩ hx
      have hkb : k ∈ keys b := List.mem_map_of_mem (f := (·.1)) hx
      have : (kget a k).isSome := by rw [h1 k]; exact (kget_isSome_iff b k).mpr hkb
      simp only [Bool.not_eq_true', Bool.not_eq_false, decide_eq_true_eq]
      exact (kget_isSome_iff a k).mp this

theorem hashcmp_eq_replace {N : Nested ν δ} {a b r : KV κ ν} {keyOnly : Bool} (ha : NoDupK a) (hb : NoDupK b)
    (h : hashcmp N a b keyOnly = some (.replace r)) : r = b := by
  rw [hashcmp_eq N a b ha hb] at h
  split at h
  · cases h; rfl
  · cases (Option.ite_none_left_eq_some.mp h).2

theorem hashcmp_eq_modify {N : Nested ν δ} {a b : KV κ ν} {keyOnly : Bool} {es : List (Change κ ν δ)} (ha : NoDupK a)
    (hb : NoDupK b) (h : hashcmp N a b keyOnly = some (.modify es)) : es = entriesOf N keyOnly a b := by
  rw [hashcmp_eq N a b ha hb] at h
  split at h
  · cases h
  · cases (Option.ite_none_left_eq_some.mp h).2; rfl

theorem hashcmp_none_iff (N : Nested ν δ) (prev cur : KV κ ν) (hp : NoDupK prev) (hc : NoDupK cur) (keyOnly : Bool) :
    hashcmp N prev cur keyOnly = none ↔
      (∀ k, (kget prev k).isSome = (kget cur k).isSome) ∧
      (keyOnly = false → ∀ k pv cv, kget prev k = some pv → kget cur k = some cv → N.veq pv cv = true) := by
  rw [hashcmp_eq N prev cur hp hc, ← entries_nil_iff N keyOnly prev cur hp]
  constructor
  · intro h
    split at h
    · cases h
    · split at h
      · exact List.isEmpty_iff.mp ‹_›
      · cases h
  · intro hnil
    have hlen := Assoc.length_eq_of_keys hp hc fun k => by
      show k ∈ keys prev ↔ k ∈ keys cur
      rw [← kget_isSome_iff, ← kget_isSome_iff, ((entries_nil_iff N keyOnly prev cur hp).mp hnil).1 k]
    rw [if_neg (by omega), hnil]
    rfl

/-- the changes a computed diff carries are the nested diffs of retained keys, and only in key-and-value mode -/
theorem mem_hashcmp_change (N : Nested ν δ) (keyOnly : Bool) (a b : KV κ ν) (ha : NoDupK a) (hb : NoDupK b)
    (es : List (Change κ ν δ)) (h : hashcmp N a b keyOnly = some (.modify es)) (k : κ) (d : δ) (hm : Change.change k d ∈ es) :
    ∃ pv cv, kget a k = some pv ∧ kget b k = some cv ∧ keyOnly = false ∧ d = N.diff pv cv := by
  rw [hashcmp_eq_modify ha hb h] at hm
  have hs : Change.change k d ∈ (entriesOf N keyOnly a b).filter (keyOf · = k) := (Assoc.mem_filter_key_iff keyOf).mpr hm
  rw [filter_entriesOf N keyOnly a b ha hb] at hs
  revert hs
  cases kget a k <;> cases kget b k <;> intro hs
  · cases hs
  · cases List.mem_singleton.mp hs
  · cases List.mem_singleton.mp hs
  · rename_i pv cv
    obtain ⟨hc, hs⟩ := List.mem_ite_nil_right.mp hs
    cases List.mem_singleton.mp hs
    exact ⟨pv, cv, rfl, rfl, (Bool.not_eq_true' _).mp (Bool.and_eq_true_iff.mp hc).1, rfl⟩

/-- applying the diff of `(a, b)` to a base `f` with `a`'s key set: exactly `b`'s keys, each carrying `b`'s value (new
key, or whole-map replacement) or the base's value patched in place by the nested diff -/
theorem hashcmp_follow (N : Nested ν δ) (keyOnly : Bool) (a b f : KV κ ν) (ha : NoDupK a) (hb : NoDupK b) (hf : NoDupK f)
    (hk : ∀ k, (kget a k).isSome = (kget f k).isSome) (d : Diff κ ν δ) (h : hashcmp N a b keyOnly = some d) :
    NoDupK (apply N f d) ∧ (∀ k, (kget (apply N f d) k).isSome = (kget b k).isSome) ∧
    ∀ k cv rv, kget b k = some cv → kget (apply N f d) k = some rv →
      rv = cv ∨ ∃ pv fv, kget a k = some pv ∧ kget f k = some fv ∧ rv = patchOf N keyOnly pv cv fv := by
  cases d with
  | replace r =>
    cases hashcmp_eq_replace ha hb h
    exact ⟨hb, fun _ => rfl, fun k cv rv h1 h2 => .inl (Option.some.inj (h2.symm.trans h1))⟩
  | modify es =>
    cases hashcmp_eq_modify ha hb h
    have key := apply_entries_kget N keyOnly a b f ha hb hf
    refine ⟨(apply_modify_kget N f hf _).1, fun k => ?_, fun k cv rv hbk hrk => ?_⟩
    · rw [key k]
      have hk := hk k
      cases hak : kget a k <;> cases kget b k <;> rw [hak] at hk <;> try rfl
      · exact hk.symm
      · show ((kget f k).map _).isSome = true
        rw [Option.isSome_map]
        exact hk.symm
    · rw [key k, hbk] at hrk
      cases hak : kget a k <;> rw [hak] at hrk
      · exact .inl (Option.some.inj hrk).symm
      · obtain ⟨fv, hfk, rfl⟩ := Option.map_eq_some_iff.mp hrk
        exact .inr ⟨_, fv, rfl, hfk, rfl⟩

/-- what a change produced by the comparison looks like: a removal, or the nested diff towards a value of `cur` -/
def FromCur (N : Nested ν δ) (G : ν → Prop) : Change κ ν δ → Prop
  | .remove _ => True
  | .change _ d => ∃ pv cv, d = N.diff pv cv ∧ G cv
  | .insert _ v => G v

theorem loopP_fromCur (N : Nested ν δ) (keyOnly : Bool) (G : ν → Prop) :
    ∀ (prev cur : KV κ ν), (∀ x ∈ cur, G x.2) →
      (∀ c ∈ (loopP N keyOnly prev cur).1, FromCur N G c) ∧ (∀ x ∈ (loopP N keyOnly prev cur).2, G x.2)
  | [], cur, h => by
    simp only [loopP]
    exact ⟨fun c hc => (by cases hc), h⟩
  | (k, pv) :: prev, cur, h => by
    have he := kerase_mem cur k
    have ih := loopP_fromCur N keyOnly G prev (kerase cur k).2 (fun x hx => h x (he.2 x hx))
    simp only [loopP]
    cases hc : (kerase cur k).1 with
    | none => exact ⟨List.forall_mem_cons.mpr ⟨trivial, ih.1⟩, ih.2⟩
    | some cv =>
      simp only
      split
      · exact ⟨List.forall_mem_cons.mpr ⟨⟨pv, cv, rfl, h (k, cv) (he.1 cv hc)⟩, ih.1⟩, ih.2⟩
      · exact ih

/-- every value carried by a computed recursive-map diff is a value of the current map; every nested diff leads to one -/
theorem hashcmp_fromCur (N : Nested ν δ) (prev cur : KV κ ν) (keyOnly : Bool) (G : ν → Prop) (h : ∀ x ∈ cur, G x.2)
    (d : Diff κ ν δ) (hd : hashcmp N prev cur keyOnly = some d) :
    match d with
    | .replace l => ∀ x ∈ l, G x.2
    | .modify es => ∀ c ∈ es, FromCur N G c := by
  have hc : ∀ x ∈ collect cur, G x.2 := fun x hx => h x (mem_collect cur x hx)
  rw [hashcmp] at hd
  split at hd
  · cases hd; exact hc
  · cases (Option.ite_none_left_eq_some.mp hd).2
    have := loopP_fromCur N keyOnly G (collect prev) (collect cur) hc
    exact List.forall_mem_append.mpr ⟨this.1, List.forall_mem_map.mpr this.2⟩

end RMap
