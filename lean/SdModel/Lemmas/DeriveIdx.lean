import SdModel.Lemmas.DeriveKnot

/-!
Position-wise view of the struct-level semantics: which entry `diff` emits for which field, what `apply_single`
does to the addressed field and to all the others, and the setter bodies.  Used by C03, C04, C15.
-/
namespace Derive

theorem valAt_setAt_same : ∀ (x : Vals) (j : Nat) (w v : Val), valAt x j = some v → valAt (setAt x j w) j = some w
  | .nil, _, _, _, h => nomatch h
  | .cons _ _, 0, _, _, _ => rfl
  | .cons _ as, j+1, w, v, h => valAt_setAt_same as j w v h

theorem valAt_setAt_ne : ∀ (x : Vals) (j i : Nat) (w : Val), i ≠ j → valAt (setAt x j w) i = valAt x i
  | .nil, _, _, _, _ => rfl
  | .cons _ _, 0, 0, _, h => absurd rfl h
  | .cons _ _, 0, _+1, _, _ => rfl
  | .cons _ _, _+1, 0, _, _ => rfl
  | .cons _ as, j+1, i+1, w, h => valAt_setAt_ne as j i w (Nat.add_one_ne_add_one_iff.mp h)

theorem setAt_self : ∀ (x : Vals) (j : Nat) (v : Val), valAt x j = some v → setAt x j v = x
  | .nil, _, _, _ => rfl
  | .cons _ _, 0, _, h => by cases h; rfl
  | .cons a as, j+1, v, h => congrArg (Vals.cons a) (setAt_self as j v h)

theorem swt_at (fs : FS) (x : Vals) (h : SWT fs x) (j : Nat) (e : Bool × FieldSem × FieldRel) (hj : fs[j]? = some e) :
    ∃ v, valAt x j = some v ∧ e.2.2.wt v := by
  fun_induction SWT fs x generalizing j with
  | case1 => cases hj
  | case2 _ _ R fs v vs ih =>
    cases j with
    | zero => cases hj; exact ⟨v, rfl, h.1⟩
    | succ j => exact ih h.2 j hj
  | case3 => exact h.elim

theorem swt_of_valAt {fs : FS} {x : Vals} (h : SWT fs x) {j : Nat} {e : Bool × FieldSem × FieldRel} (hj : fs[j]? = some e)
    {v : Val} (hv : valAt x j = some v) : e.2.2.wt v := by
  obtain ⟨_, w1, w2⟩ := swt_at fs x h j e hj
  cases w1.symm.trans hv
  exact w2

theorem swt_setAt (fs : FS) (x : Vals) (h : SWT fs x) (j : Nat) (e : Bool × FieldSem × FieldRel) (hj : fs[j]? = some e)
    (w : Val) (hw : e.2.2.wt w) : SWT fs (setAt x j w) := by
  fun_induction SWT fs x generalizing j with
  | case1 => cases hj
  | case2 _ _ R fs v vs ih =>
    cases j with
    | zero => cases hj; exact ⟨hw, h.2⟩
    | succ j => exact ⟨h.1, ih h.2 j hj⟩
  | case3 => exact h.elim

theorem sequiv_at (fs : FS) (x y : Vals) (h : SEquiv fs x y) (j : Nat) (sk : Bool) (F : FieldSem) (R : FieldRel)
    (hj : fs[j]? = some (sk, F, R)) (a f : Val) (ha : valAt x j = some a) (hf : valAt y j = some f) :
    sk = true ∨ R.equiv a f := by
  fun_induction SEquiv fs x y generalizing j with
  | case1 => cases hj
  | case2 _ _ _ fs v vs w ws ih =>
    cases j with
    | zero => cases hj; cases ha; cases hf; exact h.1
    | succ j => exact ih h.2 j hj ha hf
  | case3 => exact h.elim

theorem sequiv_of_valAt {fs : FS} {x y : Vals} (h : SEquiv fs x y) {j : Nat} {F : FieldSem} {R : FieldRel}
    (hj : fs[j]? = some (false, F, R)) {a f : Val} (ha : valAt x j = some a) (hf : valAt y j = some f) : R.equiv a f :=
  (sequiv_at fs x y h j false F R hj a f ha hf).resolve_left Bool.false_ne_true

theorem sequiv_setAt (fs : FS) (x y : Vals) (h : SEquiv fs x y) (j : Nat) (sk : Bool) (F : FieldSem) (R : FieldRel)
    (hj : fs[j]? = some (sk, F, R)) (a f : Val) (he : sk = true ∨ R.equiv a f) :
    SEquiv fs (setAt x j a) (setAt y j f) := by
  fun_induction SEquiv fs x y generalizing j with
  | case1 => cases hj
  | case2 _ _ _ fs v vs w ws ih =>
    cases j with
    | zero => cases hj; exact ⟨he, h.2⟩
    | succ j => exact ⟨h.1, ih h.2 j hj⟩
  | case3 => exact h.elim

theorem mem_sdiffG_iff (sel : FieldSem → Val → Val → Option Payload) (fs : FS) (i0 : Nat) (a b : Vals) (n : Nat) (p : Payload) :
    (n, p) ∈ sdiffG sel (fieldsOf fs) i0 a b ↔
      ∃ j F R va vb, n = i0 + j ∧ fs[j]? = some (false, F, R) ∧ valAt a j = some va ∧ valAt b j = some vb ∧
        sel F va vb = some p := by
  induction fs generalizing i0 a b with
  | nil => exact iff_of_false (by cases a <;> cases b <;> exact List.not_mem_nil) (by rintro ⟨_, _, _, _, _, h⟩; cases h.2.1)
  | cons e0 fs ih =>
    obtain ⟨sk, F, R⟩ := e0
    cases a with
    | nil => exact iff_of_false List.not_mem_nil (by rintro ⟨_, _, _, _, _, h⟩; cases h.2.2.1)
    | cons a0 as =>
    cases b with
    | nil => exact iff_of_false List.not_mem_nil (by rintro ⟨_, _, _, _, _, h⟩; cases h.2.2.2.1)
    | cons b0 bs =>
      rw [fieldsOf_cons, sdiffG_cons, List.mem_append, ih]
      constructor
      · rintro (h | ⟨j, F', R', va, vb, e1, e2, e3, e4, e5⟩)
        · cases sk with
          | true => cases h
          | false =>
            obtain ⟨q, hq, e⟩ := List.mem_map.mp h
            cases e
            exact ⟨0, F, R, a0, b0, rfl, rfl, rfl, rfl, Option.mem_toList.mp hq⟩
        · exact ⟨j + 1, F', R', va, vb, e1.trans (Nat.add_right_comm ..), e2, e3, e4, e5⟩
      · rintro ⟨j, F', R', va, vb, e1, e2, e3, e4, e5⟩
        cases j with
        | zero =>
          cases e2; cases e3; cases e4
          exact .inl (List.mem_map.mpr ⟨p, Option.mem_toList.mpr e5, by rw [e1]; rfl⟩)
        | succ j => exact .inr ⟨j, F', R', va, vb, e1.trans (Nat.add_right_comm i0 j 1), e2, e3, e4, e5⟩

theorem mem_sdiffG (sel : FieldSem → Val → Val → Option Payload) (fs : FS) (i0 : Nat) (a b : Vals) (n : Nat) (p : Payload)
    (h : (n, p) ∈ sdiffG sel (fieldsOf fs) i0 a b) :
    ∃ j F R va vb, n = i0 + j ∧ fs[j]? = some (false, F, R) ∧ valAt a j = some va ∧ valAt b j = some vb ∧
      sel F va vb = some p :=
  (mem_sdiffG_iff sel fs i0 a b n p).mp h

theorem sdiffG_mem (sel : FieldSem → Val → Val → Option Payload) (fs : FS) (i0 : Nat) (a b : Vals)
    (j : Nat) (F : FieldSem) (R : FieldRel) (va vb : Val) (p : Payload)
    (hj : fs[j]? = some (false, F, R)) (ha : valAt a j = some va) (hb : valAt b j = some vb) (hp : sel F va vb = some p) :
    (i0 + j, p) ∈ sdiffG sel (fieldsOf fs) i0 a b :=
  (mem_sdiffG_iff sel fs i0 a b _ p).mpr ⟨j, F, R, va, vb, rfl, hj, ha, hb, hp⟩

/-- the entry list of a whole struct (offset 0): field `n` has index `n` -/
theorem mem_sdiffG_zero {sel : FieldSem → Val → Val → Option Payload} {fs : FS} {a b : Vals} {n : Nat} {p : Payload} :
    (n, p) ∈ sdiffG sel (fieldsOf fs) 0 a b ↔
      ∃ F R va vb, fs[n]? = some (false, F, R) ∧ valAt a n = some va ∧ valAt b n = some vb ∧ sel F va vb = some p := by
  rw [mem_sdiffG_iff]
  constructor
  · rintro ⟨j, F, R, va, vb, e1, h⟩
    cases (Nat.zero_add j).symm.trans e1.symm
    exact ⟨F, R, va, vb, h⟩
  · rintro ⟨F, R, va, vb, h⟩
    exact ⟨n, F, R, va, vb, (Nat.zero_add n).symm, h⟩

theorem allGe_iff (lo : Nat) : ∀ es : Entries, AllGe lo es ↔ ∀ e ∈ es, lo ≤ e.1
  | [] => iff_of_true trivial nofun
  | (_, _) :: rest => by simp only [AllGe, allGe_iff lo rest, List.forall_mem_cons]

theorem sdiffG_sorted (sel : FieldSem → Val → Val → Option Payload) (fs : Fields) (i0 : Nat) (a b : Vals) :
    ((sdiffG sel fs i0 a b).map (·.1)).Pairwise (· < ·) ∧ ∀ n ∈ (sdiffG sel fs i0 a b).map (·.1), i0 ≤ n := by
  refine ⟨?_, fun n hn => ?_⟩
  · fun_induction sdiffG sel fs i0 a b
    · rename_i ih; exact ih
    · -- the head's entry has index `i`, those of the later fields are ≥ `i + 1`
      rename_i ih
      refine List.pairwise_cons.mpr ⟨fun n hn => ?_, ih⟩
      obtain ⟨e, he, rfl⟩ := List.mem_map.mp hn
      exact (allGe_iff _ _).mp (sdiffG_allGe _ _ _ _ _) e he
    · rename_i ih; exact ih
    · exact .nil
  · obtain ⟨e, he, rfl⟩ := List.mem_map.mp hn
    exact (allGe_iff _ _).mp (sdiffG_allGe sel fs i0 a b) e he

theorem sapplyOne_at (fs : FS) (i0 : Nat) (x : Vals) (j : Nat) (F : FieldSem) (R : FieldRel) (v v' : Val) (p : Payload)
    (hj : fs[j]? = some (false, F, R)) (hv : valAt x j = some v) (hp : F.apply v p = .ok v') :
    sapplyOne (fieldsOf fs) i0 (i0 + j, p) x = .ok (setAt x j v') := by
  induction fs generalizing i0 x j with
  | nil => cases hj
  | cons e0 fs ih =>
    cases x with
    | nil => cases hv
    | cons a as =>
      rw [fieldsOf_cons, sapplyOne]
      cases j with
      | zero =>
        cases hj; cases hv
        rw [if_pos (Nat.add_zero i0).symm, hp]
        rfl
      | succ j =>
        rw [if_neg (by omega), show i0 + (j + 1) = i0 + 1 + j from Nat.add_right_comm i0 j 1, ih (i0 + 1) as j hj hv]
        rfl

theorem sapplyOne_frame (fs : FS) (i0 : Nat) (x x' : Vals) (n : Nat) (p : Payload)
    (h : sapplyOne (fieldsOf fs) i0 (n, p) x = .ok x') :
    ∃ j F R v v', n = i0 + j ∧ fs[j]? = some (false, F, R) ∧ valAt x j = some v ∧ F.apply v p = .ok v' ∧ x' = setAt x j v' := by
  induction fs generalizing i0 x x' with
  | nil => cases x <;> cases h
  | cons e0 fs ih =>
    obtain ⟨sk, F0, R0⟩ := e0
    cases x with
    | nil => cases h
    | cons a as =>
      rw [fieldsOf_cons, sapplyOne] at h
      by_cases hn : i0 = n
      · subst hn
        rw [if_pos rfl] at h
        cases sk with
        | true => cases h
        | false =>
          cases hap : F0.apply a p with
          | error m => rw [hap] at h; cases h
          | ok v' =>
            rw [hap] at h
            cases h
            exact ⟨0, F0, R0, a, v', rfl, rfl, rfl, hap, rfl⟩
      · rw [if_neg hn] at h
        cases hrec : sapplyOne (fieldsOf fs) (i0 + 1) (n, p) as with
        | error m => rw [hrec] at h; cases h
        | ok as' =>
          rw [hrec] at h
          cases h
          obtain ⟨j, F, R, v, v', e1, e2, e3, e4, e5⟩ := ih (i0 + 1) as as' hrec
          exact ⟨j + 1, F, R, v, v', e1.trans (Nat.add_right_comm ..), e2, e3, e4, by rw [e5]; rfl⟩

/-- a skipped field has no arm: an entry addressed to it is rejected (no such variant exists in the real enum) -/
theorem sapplyOne_skipped (fs : FS) (i0 : Nat) (x : Vals) (j : Nat) (F : FieldSem) (R : FieldRel) (p : Payload)
    (hj : fs[j]? = some (true, F, R)) : ∃ m, sapplyOne (fieldsOf fs) i0 (i0 + j, p) x = .error m := by
  cases h : sapplyOne (fieldsOf fs) i0 (i0 + j, p) x with
  | error m => exact ⟨m, rfl⟩
  | ok x' =>
    obtain ⟨j', _, _, _, _, e1, e2, _⟩ := sapplyOne_frame fs i0 x x' _ p h
    cases Nat.add_left_cancel e1
    cases hj.symm.trans e2

/-- a setter body, when one is generated, returns exactly the entry a full diff would contain for that field, and it
returns BEFORE assigning only when it returns nothing because the old value is `==` to the given one -/
def SetterOK (F : FieldSem) : Prop :=
  (∀ old v ret, F.setter old v = some ret → ret = F.diff old v) ∧
  (∀ old v, F.setterKeeps old v = true → veq old v = true ∧ (∀ ret, F.setter old v = some ret → ret = none))

/-- setters that compare first (`if self.f == value { return None }`) and then build the entry `diff` would -/
theorem SetterOK.of_veq {F : FieldSem} (h1 : ∀ old v, F.setter old v = some (F.diff old v))
    (h2 : ∀ old v, F.setterKeeps old v = veq old v) (h3 : ∀ old v, veq old v = true → F.diff old v = none) : SetterOK F :=
  have ret_eq old v ret (h : F.setter old v = some ret) : ret = F.diff old v :=
    (Option.some.inj ((h1 old v).symm.trans h)).symm
  ⟨ret_eq, fun old v hk =>
    have hv := (h2 old v).symm.trans hk
    ⟨hv, fun ret h => (ret_eq old v ret h).trans (h3 old v hv)⟩⟩

theorem ropt_diff_of_veq (S : TySem) (a b : Val) (h : veq a b = true) : (recurseOptField S).diff a b = none := by
  dsimp only [recurseOptField]
  split
  · exact if_pos h
  · cases h
  · cases h
  · rfl

theorem setter_ok_kind : ∀ k : Kind, SetterOK (semKind k)
  | .plain | .recurse _ => .of_veq (fun _ _ => rfl) (fun _ _ => rfl) (fun _ _ h => if_pos h)
  | .recurseOpt t => .of_veq
    (fun old v => by
      show some (if veq old v then none else (recurseOptField (semTy t)).diff old v) =
        some ((recurseOptField (semTy t)).diff old v)
      split
      · rw [ropt_diff_of_veq _ old v ‹_›]
      · rfl)
    (fun _ _ => rfl) (ropt_diff_of_veq _)
  | .ordered | .unordArr | .map _ => ⟨fun _ _ _ h => (Option.some.inj h).symm, nofun⟩
  | .recMap ko _ => by
    refine ⟨fun _ _ _ h => ?_, nofun⟩
    cases ko with
    | true => exact (Option.some.inj h).symm
    | false => cases h

theorem setter_ok_fields : ∀ fs : FieldTys, ∀ x ∈ relFields fs, SetterOK x.2.1
  | .nil => nofun
  | .cons _ k rest => List.forall_mem_cons.mpr ⟨setter_ok_kind k, setter_ok_fields rest⟩

theorem fieldAt_fieldsOf (fs : FS) (i : Nat) : fieldAt (fieldsOf fs) i = (fs[i]?).map fun x => (x.1, x.2.1) := by
  induction fs generalizing i with
  | nil => rfl
  | cons e fs ih =>
    cases i with
    | zero => rfl
    | succ i => exact ih i

end Derive
