import SdModel.Model.UArr
import SdModel.Lemmas.Assoc

/-!
Lemmas for C11 / C16 / C19 / C20, all on counts (so for every iteration order of the hash maps).  The comparison's
change list is characterised item by item, `filter_entriesOf`; totals, positivity and at-most-once are read off `slice`.
-/
namespace UArr
variable {α : Type} [DecidableEq α]

def NoDup : CMap α → Prop
  | [] => True
  | (k, _) :: t => hasKey t k = false ∧ NoDup t

def Pos (m : CMap α) : Prop := ∀ kc ∈ m, 0 < kc.2

theorem cget_eq (m : CMap α) (x : α) : cget m x = (Assoc.lookup m x).getD 0 := by
  induction m with
  | nil => rfl
  | cons e t ih => simp only [cget, Assoc.lookup, ih]; split <;> rfl

theorem hasKey_eq (m : CMap α) (x : α) : hasKey m x = (Assoc.lookup m x).isSome := by
  induction m with
  | nil => rfl
  | cons e t ih => simp only [hasKey, Assoc.lookup, ih]; split <;> simp [*]

theorem nodup_iff (m : CMap α) : NoDup m ↔ (Assoc.keys m).Nodup := by
  induction m with
  | nil => simp [NoDup]
  | cons e t ih =>
    simp only [NoDup, ih, hasKey_eq, Option.isSome_eq_false_iff, Option.isNone_iff_eq_none, Assoc.lookup_eq_none_iff, Assoc.keys,
      List.map_cons, List.nodup_cons]

theorem cadd_eq (m : CMap α) (x : α) (n : Nat) : cadd m x n = Assoc.upsert (fun o => o.getD 0 + n) m x := by
  induction m with
  | nil => simp [cadd, Assoc.upsert]
  | cons e t ih => simp only [cadd, Assoc.upsert, ih, Option.getD_some]

theorem csub_eq (m : CMap α) (x : α) (n : Nat) :
    csub m x n = Assoc.update (fun c => if c > n then some (c - n) else none) m x := by
  induction m with
  | nil => rfl
  | cons e t ih =>
    rw [csub, Assoc.update, ih]
    by_cases h : e.2 > n
    · rw [if_pos h, if_pos h]
    · rw [if_neg h, if_neg h]

theorem cerase_eq (m : CMap α) (x : α) : cerase m x = (Assoc.lookup m x, Assoc.erase m x) := by
  induction m with
  | nil => rfl
  | cons e t ih => simp only [cerase, Assoc.erase, Assoc.update, Assoc.lookup, ih]; split <;> rfl

theorem cerase_fst (m : CMap α) (x : α) :
    (cerase m x).1 = (if hasKey m x then some (cget m x) else none) := by
  rw [cerase_eq, hasKey_eq, cget_eq]; cases Assoc.lookup m x <;> rfl

theorem cget_cerase (m : CMap α) (x y : α) (h : NoDup m) :
    cget (cerase m x).2 y = if y = x then 0 else cget m y := by
  rw [cerase_eq, cget_eq, cget_eq, Assoc.lookup_update _ x y ((nodup_iff m).mp h), Option.bind_fun_none]
  exact apply_ite (Option.getD · 0) ..

theorem hasKey_cerase (m : CMap α) (x y : α) (h : NoDup m) :
    hasKey (cerase m x).2 y = (hasKey m y && !decide (y = x)) := by
  rw [cerase_eq, hasKey_eq, hasKey_eq, Assoc.lookup_update _ x y ((nodup_iff m).mp h), Option.bind_fun_none]
  by_cases hy : y = x <;> simp [hy]

theorem cget_of_not_hasKey (m : CMap α) (x : α) (h : hasKey m x = false) : cget m x = 0 := by
  rw [hasKey_eq, Option.isSome_eq_false_iff, Option.isNone_iff_eq_none] at h
  rw [cget_eq, h]; rfl

theorem hasKey_iff_mem (m : CMap α) (x : α) : hasKey m x = true ↔ x ∈ m.map (·.1) := by
  rw [hasKey_eq]; exact Assoc.lookup_isSome_iff m x

theorem cget_cadd (m : CMap α) (x y : α) (n : Nat) :
    cget (cadd m x n) y = cget m y + (if y = x then n else 0) := by
  rw [cget_eq, cget_eq, cadd_eq, Assoc.lookup_upsert]
  split
  · subst y; rfl
  · rfl

theorem hasKey_cadd (m : CMap α) (x y : α) (n : Nat) : hasKey (cadd m x n) y = (hasKey m y || decide (x = y)) := by
  rw [hasKey_eq, hasKey_eq, cadd_eq, Assoc.lookup_upsert]
  split
  · subst y; simp
  · rename_i h; simp [Ne.symm h]

theorem nodup_cadd (m : CMap α) (x : α) (n : Nat) (h : NoDup m) : NoDup (cadd m x n) := by
  rw [nodup_iff] at h ⊢; rw [cadd_eq]; exact Assoc.nodup_upsert _ x h

theorem pos_cadd (m : CMap α) (x : α) (n : Nat) (hn : 0 < n) (h : Pos m) : Pos (cadd m x n) := by
  intro e he
  rw [cadd_eq] at he
  rcases Assoc.mem_upsert he with he | rfl
  · exact h e he
  · exact Nat.add_pos_right _ hn

theorem cget_csub (m : CMap α) (x y : α) (n : Nat) (h : NoDup m) :
    cget (csub m x n) y = if y = x then cget m y - n else cget m y := by
  rw [cget_eq, cget_eq, csub_eq, Assoc.lookup_update _ x y ((nodup_iff m).mp h)]
  split
  · subst y
    cases Assoc.lookup m x with
    | none => exact (Nat.zero_sub n).symm
    | some c =>
      exact (apply_ite (Option.getD · 0) (c > n) _ _).trans
        (ite_eq_left_iff.mpr fun hn => (Nat.sub_eq_zero_of_le (Nat.le_of_not_lt hn)).symm)
  · rfl

theorem hasKey_csub_false (m : CMap α) (x y : α) (n : Nat) (h : hasKey m y = false) : hasKey (csub m x n) y = false := by
  rw [hasKey_eq, Option.isSome_eq_false_iff, Option.isNone_iff_eq_none, Assoc.lookup_eq_none_iff] at h ⊢
  rw [csub_eq]
  exact fun h' => h ((Assoc.keys_update_sublist _ m x).subset h')

theorem nodup_csub (m : CMap α) (x : α) (n : Nat) (h : NoDup m) : NoDup (csub m x n) := by
  rw [nodup_iff] at h ⊢; rw [csub_eq]; exact Assoc.nodup_update _ x h

theorem collect_spec (l : List α) : NoDup (collect l) ∧ Pos (collect l) ∧ ∀ x, cget (collect l) x = l.count x := by
  have : ∀ (m : CMap α), NoDup m → Pos m →
      NoDup (l.foldl (fun m x => cadd m x 1) m) ∧ Pos (l.foldl (fun m x => cadd m x 1) m) ∧
      ∀ x, cget (l.foldl (fun m x => cadd m x 1) m) x = l.count x + cget m x := by
    induction l with
    | nil => intro m h1 h2; exact ⟨h1, h2, fun _ => (Nat.zero_add _).symm⟩
    | cons a t ih =>
      intro m h1 h2
      obtain ⟨a1, a2, a3⟩ := ih (cadd m a 1) (nodup_cadd m a 1 h1) (pos_cadd m a 1 Nat.one_pos h2)
      refine ⟨a1, a2, fun x => ?_⟩
      simp only [List.foldl_cons, a3, cget_cadd, List.count_cons, beq_iff_eq, eq_comm (a := a)]; omega
  exact this [] trivial (fun _ h => nomatch h)

theorem nodup_keys_collect (l : List α) : (Assoc.keys (collect l)).Nodup := (nodup_iff _).mp (collect_spec l).1
theorem pos_collect (l : List α) : Pos (collect l) := (collect_spec l).2.1
theorem cget_collect (l : List α) (x : α) : cget (collect l) x = l.count x := (collect_spec l).2.2 x

theorem mem_keys_collect (l : List α) (x : α) : x ∈ Assoc.keys (collect l) ↔ x ∈ l := by
  obtain ⟨_, c2, c3⟩ := collect_spec l
  rw [← List.count_pos_iff (l := l), ← c3, cget_eq, ← Assoc.lookup_isSome_iff]
  cases hl : Assoc.lookup (collect l) x with
  | none => exact ⟨fun h => (nomatch h), fun h => (nomatch h)⟩
  | some n => exact ⟨fun _ => c2 _ (Assoc.mem_of_lookup hl), fun _ => rfl⟩

theorem collect_length_congr (a b : List α) (h : ∀ y, a.count y = b.count y) : (collect a).length = (collect b).length :=
  Assoc.length_eq_of_keys (nodup_keys_collect a) (nodup_keys_collect b) fun y => by
    rw [mem_keys_collect, mem_keys_collect, ← List.count_pos_iff, ← List.count_pos_iff, h y]

theorem count_expand (m : CMap α) (x : α) (h : NoDup m) : (expand m).count x = cget m x := by
  induction m with
  | nil => rfl
  | cons kc t ih =>
    obtain ⟨k, c⟩ := kc
    have := ih h.2
    rw [expand] at this ⊢
    rw [List.flatMap_cons, List.count_append, List.count_replicate, this, cget]
    by_cases hk : k = x
    · rw [if_pos hk, if_pos (beq_iff_eq.mpr hk), ← hk, cget_of_not_hasKey t k h.1, Nat.add_zero]
    · rw [if_neg hk, if_neg (fun h' => hk (beq_iff_eq.mp h')), Nat.zero_add]

theorem count_expand_collect (l : List α) (x : α) : (expand (collect l)).count x = l.count x := by
  rw [count_expand _ _ (collect_spec l).1, cget_collect]

omit [DecidableEq α] in
theorem mkChange_spec (f : Nat) (x : α) (n : Nat) (d : Dir) :
    changeItem (mkChange f x n d) = x ∧ changeCount (mkChange f x n d) = n ∧
    isInsert (mkChange f x n d) = decide (d = .ins) := by
  -- a `Single` carries no count: it stands for `n = 1`
  by_cases h1 : n = 1
  · cases d <;> rw [mkChange, if_pos h1] <;> exact ⟨rfl, h1.symm, rfl⟩
  · by_cases h2 : n ≤ f
    · cases d <;> rw [mkChange, if_neg h1, if_pos h2] <;> exact ⟨rfl, rfl, rfl⟩
    · cases d <;> rw [mkChange, if_neg h1, if_neg h2] <;> exact ⟨rfl, rfl, rfl⟩

/-- total count of the entries of `es` that mention `y` -/
def total (es : List (Change α)) (y : α) : Nat :=
  (es.map fun e => if changeItem e = y then changeCount e else 0).sum

def inserted (es : List (Change α)) (y : α) : Nat := total (es.filter isInsert) y
def removed (es : List (Change α)) (y : α) : Nat := total (es.filter fun e => !isInsert e) y

@[simp] theorem total_nil (y : α) : total ([] : List (Change α)) y = 0 := rfl
theorem inserted_nil (y : α) : inserted ([] : List (Change α)) y = 0 := rfl
theorem removed_nil (y : α) : removed ([] : List (Change α)) y = 0 := rfl
theorem total_cons (e : Change α) (es : List (Change α)) (y : α) :
    total (e :: es) y = (if changeItem e = y then changeCount e else 0) + total es y := rfl
theorem total_append (a b : List (Change α)) (y : α) : total (a ++ b) y = total a y + total b y := by
  simp [total, List.sum_append]

theorem inserted_cons (e : Change α) (es : List (Change α)) (y : α) :
    inserted (e :: es) y = (if isInsert e ∧ changeItem e = y then changeCount e else 0) + inserted es y := by
  unfold inserted
  by_cases h : isInsert e = true
  · simp [h, total_cons]
  · simp [h]

theorem removed_cons (e : Change α) (es : List (Change α)) (y : α) :
    removed (e :: es) y = (if ¬ isInsert e ∧ changeItem e = y then changeCount e else 0) + removed es y := by
  unfold removed
  by_cases h : isInsert e = true
  · simp [h]
  · simp [h, total_cons]

theorem inserted_append (a b : List (Change α)) (y : α) : inserted (a ++ b) y = inserted a y + inserted b y := by
  simp [inserted, List.filter_append, total_append]
theorem removed_append (a b : List (Change α)) (y : α) : removed (a ++ b) y = removed a y + removed b y := by
  simp [removed, List.filter_append, total_append]

theorem inserted_mk (f : Nat) (k : α) (n : Nat) (d : Dir) (es : List (Change α)) (y : α) :
    inserted (mkChange f k n d :: es) y = (if d = .ins ∧ k = y then n else 0) + inserted es y := by
  simp only [inserted_cons, mkChange_spec, decide_eq_true_eq]

theorem removed_mk (f : Nat) (k : α) (n : Nat) (d : Dir) (es : List (Change α)) (y : α) :
    removed (mkChange f k n d :: es) y = (if d = .rem ∧ k = y then n else 0) + removed es y := by
  cases d <;> simp [removed_cons, mkChange_spec]

theorem total_filter (es : List (Change α)) (y : α) : total (es.filter (changeItem · = y)) y = total es y := by
  induction es with
  | nil => rfl
  | cons e es ih =>
    rw [List.filter_cons, total_cons]
    by_cases h : changeItem e = y
    · rw [if_pos (decide_eq_true h), total_cons, ih, if_pos h]
    · rw [if_neg (mt of_decide_eq_true h), ih, if_neg h, Nat.zero_add]

theorem inserted_filter (es : List (Change α)) (y : α) : inserted (es.filter (changeItem · = y)) y = inserted es y := by
  rw [inserted, inserted, ← total_filter (es.filter isInsert), List.filter_filter, List.filter_filter]
  simp only [Bool.and_comm]

theorem removed_filter (es : List (Change α)) (y : α) : removed (es.filter (changeItem · = y)) y = removed es y := by
  rw [removed, removed, ← total_filter (es.filter _), List.filter_filter, List.filter_filter]
  simp only [Bool.and_comm]

theorem total_eq_zero (es : List (Change α)) (y : α) (h : y ∉ es.map changeItem) : total es y = 0 :=
  List.sum_eq_zero_iff_forall_eq_nat.mpr <| List.forall_mem_map.mpr fun e he =>
    if_neg fun h' => h (List.mem_map.mpr ⟨e, he, h'⟩)

theorem totals_eq_zero {es : List (Change α)} {y : α} (h : y ∉ es.map changeItem) : inserted es y = 0 ∧ removed es y = 0 :=
  ⟨total_eq_zero _ y fun h' => h (List.map_subset _ List.filter_sublist.subset h'),
   total_eq_zero _ y fun h' => h (List.map_subset _ List.filter_sublist.subset h')⟩

theorem totals_of_mem {es : List (Change α)} (hnd : (es.map changeItem).Nodup) {e : Change α} (he : e ∈ es) :
    inserted es (changeItem e) = (if isInsert e then changeCount e else 0) ∧
    removed es (changeItem e) = (if isInsert e then 0 else changeCount e) := by
  obtain ⟨l1, l2, rfl⟩ := List.append_of_mem he
  rw [List.map_append, List.map_cons, List.nodup_append] at hnd
  obtain ⟨z1, z2⟩ := totals_eq_zero (fun h => hnd.2.2 _ h _ List.mem_cons_self rfl)
  obtain ⟨z3, z4⟩ := totals_eq_zero (List.nodup_cons.mp hnd.2.1).1
  rw [inserted_append, removed_append, inserted_cons, removed_cons, z1, z2, z3, z4]
  cases isInsert e <;> simp

theorem eq_nil_of_totals (es : List (Change α)) (hpos : ∀ e ∈ es, 0 < changeCount e)
    (h : ∀ y, inserted es y = 0 ∧ removed es y = 0) : es = [] := by
  cases es with
  | nil => rfl
  | cons e t =>
    exfalso
    have hp := hpos e (List.mem_cons_self)
    have := h (changeItem e)
    rw [inserted_cons, removed_cons] at this
    by_cases hi : isInsert e = true
    · exact Nat.ne_of_gt hp ((if_pos ⟨hi, rfl⟩).symm.trans (Nat.add_eq_zero_iff.mp this.1).1)
    · exact Nat.ne_of_gt hp ((if_pos ⟨hi, rfl⟩).symm.trans (Nat.add_eq_zero_iff.mp this.2).1)

theorem applyRemovals_spec (m : CMap α) (es : List (Change α)) (h : NoDup m) :
    NoDup (applyRemovals m es) ∧ ∀ y, cget (applyRemovals m es) y = cget m y - total es y := by
  induction es generalizing m with
  | nil => exact ⟨h, fun _ => rfl⟩
  | cons e es ih =>
    obtain ⟨a1, a2⟩ := ih (csub m (changeItem e) (changeCount e)) (nodup_csub _ _ _ h)
    refine ⟨a1, fun y => ?_⟩
    simp only [applyRemovals, a2, cget_csub _ _ _ _ h, total_cons, eq_comm (a := changeItem e), ← Nat.sub_sub]
    split <;> rfl

theorem applyInsertions_spec (m : CMap α) (es : List (Change α)) (h : NoDup m) :
    NoDup (applyInsertions m es) ∧ ∀ y, cget (applyInsertions m es) y = cget m y + total es y := by
  induction es generalizing m with
  | nil => exact ⟨h, fun _ => rfl⟩
  | cons e es ih =>
    obtain ⟨a1, a2⟩ := ih (cadd m (changeItem e) (changeCount e)) (nodup_cadd _ _ _ h)
    refine ⟨a1, fun y => ?_⟩
    simp only [applyInsertions, a2, cget_cadd, total_cons, eq_comm (a := changeItem e), Nat.add_assoc]

theorem count_apply_modify (base : List α) (es : List (Change α)) (y : α) :
    (apply base (.modify es)).count y = (base.count y - removed es y) + inserted es y := by
  obtain ⟨c1, _, c3⟩ := collect_spec base
  obtain ⟨r1, r2⟩ := applyRemovals_spec (collect base) (es.filter fun e => !isInsert e) c1
  obtain ⟨i1, i2⟩ := applyInsertions_spec _ (es.filter isInsert) r1
  simp only [apply]
  rw [count_expand _ _ i1, i2, r2, c3]
  rfl

/-- the entries the loop emits for a key of `current` with count `cc`, given its binding in `previous` -/
def headOf (f : Nat) (k : α) (cc : Nat) : Option Nat → List (Change α)
  | none => [mkChange f k cc .ins]
  | some pc =>
    if cc > pc then [mkChange f k (cc - pc) .ins] else if cc < pc then [mkChange f k (pc - cc) .rem] else []

theorem loop1_cons (f : Nat) (k : α) (cc : Nat) (cur prev : CMap α) :
    loop1 f ((k, cc) :: cur) prev =
      (headOf f k cc (Assoc.lookup prev k) ++ (loop1 f cur (Assoc.erase prev k)).1, (loop1 f cur (Assoc.erase prev k)).2.1,
       (loop1 f cur (Assoc.erase prev k)).2.2 && (headOf f k cc (Assoc.lookup prev k)).all fun e => mkAssert (changeCount e)) := by
  simp only [loop1, cerase_eq]
  cases Assoc.lookup prev k with
  | none => simp only [headOf, List.cons_append, List.nil_append, List.all_cons, List.all_nil, Bool.and_true, mkChange_spec]
  | some pc =>
    by_cases h1 : cc > pc
    · simp only [headOf, h1, if_true, List.cons_append, List.nil_append, List.all_cons, List.all_nil, Bool.and_true, mkChange_spec]
    · by_cases h2 : cc < pc
      · simp only [headOf, h1, h2, if_true, if_false, List.cons_append, List.nil_append, List.all_cons, List.all_nil, Bool.and_true,
          mkChange_spec]
      · simp only [headOf, h1, h2, if_false, List.nil_append, List.all_nil, Bool.and_true]

/-- the entries that speak of item `y`, given its bindings in previous and current -/
def slice (f : Nat) (y : α) (p : Option Nat) : Option Nat → List (Change α)
  | some cc => headOf f y cc p
  | none => match p with
    | some pc => [mkChange f y pc .rem]
    | none => []

omit [DecidableEq α] in
theorem slice_some (f : Nat) (y : α) (p : Option Nat) (cc : Nat) : slice f y p (some cc) = headOf f y cc p := rfl

omit [DecidableEq α] in
theorem slice_cases (f : Nat) (y : α) (p c : Option Nat) :
    slice f y p c = [] ∨ ∃ n d, slice f y p c = [mkChange f y n d] ∧ (n = 0 → p = some 0 ∨ c = some 0) := by
  cases c with
  | none =>
    cases p with
    | none => exact .inl rfl
    | some pc => exact .inr ⟨pc, .rem, rfl, fun h => .inl (h ▸ rfl)⟩
  | some cc =>
    cases p with
    | none => exact .inr ⟨cc, .ins, rfl, fun h => .inr (h ▸ rfl)⟩
    | some pc =>
      by_cases h1 : cc > pc
      · exact .inr ⟨_, .ins, if_pos h1, fun h => (Nat.sub_ne_zero_of_lt h1 h).elim⟩
      · by_cases h2 : cc < pc
        · exact .inr ⟨_, .rem, (if_neg h1).trans (if_pos h2), fun h => (Nat.sub_ne_zero_of_lt h2 h).elim⟩
        · exact .inl ((if_neg h1).trans (if_neg h2))

-- TRAP: keep this lemma's name and keep it the first declaration of the file with a `fun (k, v) => …` on `α × Nat`:
-- the matcher inside `modifyEntries` and `hashcmpA_eq` is `UArr.rest_spec.match_1`
theorem rest_spec (f : Nat) (m : CMap α) (h : (Assoc.keys m).Nodup) (y : α) :
    (m.map fun (k, v) => mkChange f k v .rem).filter (changeItem · = y) = slice f y (Assoc.lookup m y) none := by
  rw [List.filter_map, List.filter_congr (q := (·.1 = y)) fun e _ => by simp only [Function.comp, mkChange_spec],
    Assoc.filter_key h]
  cases Assoc.lookup m y <;> rfl

def entriesOf (f : Nat) (P C : CMap α) : List (Change α) :=
  (loop1 f C P).1 ++ (loop1 f C P).2.1.map fun (k, v) => mkChange f k v .rem

theorem entriesOf_cons (f : Nat) (P C : CMap α) (k : α) (cc : Nat) :
    entriesOf f P ((k, cc) :: C) = headOf f k cc (Assoc.lookup P k) ++ entriesOf f (Assoc.erase P k) C := by
  simp only [entriesOf, loop1_cons, List.append_assoc]

theorem exists_mkChange_of_mem_entriesOf (f : Nat) (P C : CMap α) : ∀ e ∈ entriesOf f P C, ∃ x n d, e = mkChange f x n d := by
  induction C generalizing P with
  | nil => exact fun e he => (List.mem_map.mp he).elim fun kc h => ⟨_, _, _, h.2.symm⟩
  | cons kc C ih =>
    intro e he
    rw [entriesOf_cons] at he
    rcases List.mem_append.mp he with he | he
    · rcases slice_cases f kc.1 (Assoc.lookup P kc.1) (some kc.2) with h | ⟨n, d, h, _⟩ <;> rw [slice_some] at h <;> rw [h] at he
      · cases he
      · exact ⟨_, n, d, List.mem_singleton.mp he⟩
    · exact ih _ e he

theorem filter_headOf (f : Nat) (k : α) (cc : Nat) (p : Option Nat) (y : α) :
    (headOf f k cc p).filter (changeItem · = y) = if k = y then headOf f k cc p else [] := by
  rcases slice_cases f k p (some cc) with h | ⟨n, d, h, _⟩ <;> rw [slice_some] at h <;> rw [h]
  · exact (ite_self _).symm
  · rw [List.filter_cons, (mkChange_spec ..).1]
    by_cases hk : k = y <;> simp only [hk, decide_true, decide_false, if_true, Bool.false_eq_true, if_false, List.filter_nil]

theorem filter_entriesOf (f : Nat) (P C : CMap α) (hP : (Assoc.keys P).Nodup) (hC : (Assoc.keys C).Nodup) (y : α) :
    (entriesOf f P C).filter (changeItem · = y) = slice f y (Assoc.lookup P y) (Assoc.lookup C y) := by
  induction C generalizing P with
  | nil => exact rest_spec f P hP y
  | cons kc C ih =>
    obtain ⟨k, cc⟩ := kc
    rw [Assoc.keys, List.map_cons, List.nodup_cons] at hC
    rw [entriesOf_cons, List.filter_append, filter_headOf, ih _ (Assoc.nodup_update _ k hP) hC.2, Assoc.lookup]
    split
    · rename_i hk; subst hk
      rw [(Assoc.lookup_eq_none_iff C k).mpr hC.1, Assoc.lookup_update_self _ k hP]
      cases Assoc.lookup P k <;> exact List.append_nil _
    · rename_i hk
      rw [Assoc.lookup_update_ne _ P (Ne.symm hk)]; rfl

theorem totals_slice (f : Nat) (y : α) (p c : Option Nat) :
    inserted (slice f y p c) y = c.getD 0 - p.getD 0 ∧ removed (slice f y p c) y = p.getD 0 - c.getD 0 := by
  cases c with
  | none => cases p <;> simp [slice, inserted_mk, removed_mk, inserted_nil, removed_nil]
  | some cc =>
    cases p with
    | none => simp [slice, headOf, inserted_mk, removed_mk, inserted_nil, removed_nil]
    | some pc =>
      simp only [slice, headOf, Option.getD_some]
      by_cases h1 : cc > pc
      · simp [h1, inserted_mk, removed_mk, inserted_nil, removed_nil, Nat.le_of_lt h1]
      · by_cases h2 : cc < pc
        · simp [h1, h2, inserted_mk, removed_mk, inserted_nil, removed_nil, Nat.le_of_lt h2]
        · simp [h1, h2, inserted_nil, removed_nil, Nat.le_of_not_lt h1, Nat.le_of_not_lt h2]

theorem totals_entriesOf (f : Nat) (P C : CMap α) (hP : (Assoc.keys P).Nodup) (hC : (Assoc.keys C).Nodup) (y : α) :
    inserted (entriesOf f P C) y = cget C y - cget P y ∧ removed (entriesOf f P C) y = cget P y - cget C y := by
  rw [← inserted_filter, ← removed_filter, filter_entriesOf f P C hP hC, cget_eq, cget_eq]
  exact totals_slice ..

theorem nodup_entriesOf (f : Nat) (P C : CMap α) (hP : (Assoc.keys P).Nodup) (hC : (Assoc.keys C).Nodup) :
    ((entriesOf f P C).map changeItem).Nodup := by
  rw [List.nodup_iff_count]
  intro y
  rw [List.count_eq_length_filter, List.filter_map, List.length_map]
  show ((entriesOf f P C).filter (changeItem · = y)).length ≤ 1
  rw [filter_entriesOf f P C hP hC]
  rcases slice_cases f y (Assoc.lookup P y) (Assoc.lookup C y) with h | ⟨_, _, h, _⟩ <;> rw [h] <;>
    simp only [List.length_nil, List.length_cons, Nat.zero_le, Nat.le_refl]

theorem pos_entriesOf (f : Nat) (P C : CMap α) (hP : (Assoc.keys P).Nodup) (hC : (Assoc.keys C).Nodup) (pP : Pos P)
    (pC : Pos C) : ∀ e ∈ entriesOf f P C, 0 < changeCount e := by
  intro e he
  rw [← Assoc.mem_filter_key_iff changeItem, filter_entriesOf f P C hP hC] at he
  rcases slice_cases f (changeItem e) (Assoc.lookup P _) (Assoc.lookup C _) with h | ⟨n, d, h, hn⟩ <;> rw [h] at he
  · cases he
  · rw [List.mem_singleton.mp he, (mkChange_spec ..).2.1]
    -- a zero count would be stored in one of the maps
    refine Nat.pos_of_ne_zero fun h0 => ?_
    rcases hn h0 with h' | h'
    · exact Nat.lt_irrefl 0 (pP _ (Assoc.mem_of_lookup h'))
    · exact Nat.lt_irrefl 0 (pC _ (Assoc.mem_of_lookup h'))

/-- the `debug_asserts` assertions say that no emitted entry has count zero -/
theorem asserts_eq_all (f : Nat) (P C : CMap α) :
    ((loop1 f C P).2.2 && (loop1 f C P).2.1.all fun (_, v) => mkAssert v) =
      (entriesOf f P C).all fun e => mkAssert (changeCount e) := by
  induction C generalizing P with
  | nil => simp only [entriesOf, loop1, Bool.true_and, List.nil_append, List.all_map, Function.comp_def, mkChange_spec]
  | cons kc C ih =>
    rw [entriesOf_cons, List.all_append, ← ih, loop1_cons, Bool.and_right_comm, Bool.and_comm]

/-- the change list `unordered_hashcmp` builds when it does not replace -/
def modifyEntries (f : Nat) (prev cur : List α) : List (Change α) :=
  (loop1 f (collect cur) (collect prev)).1 ++
    (loop1 f (collect cur) (collect prev)).2.1.map fun (k, v) => mkChange f k v .rem

theorem modifyEntries_eq (f : Nat) (prev cur : List α) :
    modifyEntries f prev cur = entriesOf f (collect prev) (collect cur) := rfl

theorem totals_modifyEntries (f : Nat) (prev cur : List α) (y : α) :
    inserted (modifyEntries f prev cur) y = cur.count y - prev.count y ∧
    removed (modifyEntries f prev cur) y = prev.count y - cur.count y := by
  rw [modifyEntries_eq, ← cget_collect cur, ← cget_collect prev]
  exact totals_entriesOf f _ _ (nodup_keys_collect prev) (nodup_keys_collect cur) y

theorem nodup_modifyEntries (f : Nat) (prev cur : List α) : ((modifyEntries f prev cur).map changeItem).Nodup :=
  nodup_entriesOf f _ _ (nodup_keys_collect prev) (nodup_keys_collect cur)

theorem pos_modifyEntries (f : Nat) (prev cur : List α) : ∀ e ∈ modifyEntries f prev cur, 0 < changeCount e :=
  pos_entriesOf f _ _ (nodup_keys_collect prev) (nodup_keys_collect cur) (pos_collect prev) (pos_collect cur)

theorem hashcmpA_eq (f : Nat) (prev cur : List α) :
    hashcmpA f prev cur =
      if ((collect cur).length : Int) < ((collect prev).length : Int) - ((collect cur).length : Int)
      then (some (.replace (expand (collect cur))), true)
      else ((if (modifyEntries f prev cur).isEmpty then none else some (.modify (modifyEntries f prev cur))),
            (loop1 f (collect cur) (collect prev)).2.2 &&
              (loop1 f (collect cur) (collect prev)).2.1.all fun (_, v) => mkAssert v) := rfl

theorem hashcmpA_snd (f : Nat) (prev cur : List α) : (hashcmpA f prev cur).2 = true := by
  rw [hashcmpA_eq, apply_ite Prod.snd, asserts_eq_all]
  exact ite_eq_left_iff.mpr fun _ => List.all_eq_true.mpr fun e he =>
    bne_iff_ne.mpr (Nat.ne_of_gt (pos_modifyEntries f prev cur e he))

theorem hashcmp_eq_replace {f : Nat} {prev cur r : List α} (h : hashcmp f prev cur = some (.replace r)) :
    r = expand (collect cur) ∧
      ((collect cur).length : Int) < ((collect prev).length : Int) - ((collect cur).length : Int) := by
  rw [hashcmp, hashcmpA_eq] at h
  split at h
  · exact ⟨by cases h; rfl, ‹_›⟩
  · cases (Option.ite_none_left_eq_some.mp h).2

theorem hashcmp_eq_modify {f : Nat} {prev cur : List α} {es : List (Change α)} (h : hashcmp f prev cur = some (.modify es)) :
    es = modifyEntries f prev cur := by
  rw [hashcmp, hashcmpA_eq] at h
  split at h
  · cases h
  · cases (Option.ite_none_left_eq_some.mp h).2; rfl

theorem hashcmp_none_iff (f : Nat) (prev cur : List α) :
    hashcmp f prev cur = none ↔
      ¬ ((collect cur).length : Int) < ((collect prev).length : Int) - ((collect cur).length : Int) ∧
      modifyEntries f prev cur = [] := by
  rw [hashcmp, hashcmpA_eq]
  split
  · simp [*]
  · simp [*]

end UArr
