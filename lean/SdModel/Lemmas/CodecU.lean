import SdModel.Lemmas.Codec

/-! Round-trip laws of the wire codecs beyond the ordered script (C14): the collection diffs, the framing of derived
struct diffs (discriminant = rank of the field, in general of the (field, alternative) pair), and the payload codecs of
the field templates over flat element types. -/
namespace Codec

theorem decU8_enc (v : Nat) (rest : Bytes) (h : v < 256) : decU8 (encU8 v ++ rest) = some (v, rest) :=
  readLE_le 1 v rest h

theorem encList_congr {β : Type} (e e' : β → Bytes) (l : List β) (h : ∀ x ∈ l, e x = e' x) : encList e l = encList e' l := by
  simp only [encList, List.map_congr_left h]

/-- what fits the wire types: `u32` items, `usize` / `u8` counts -/
def WFUChange : UArr.Change Nat → Prop
  | .insertMany x n | .removeMany x n => x < 2 ^ 32 ∧ n < 2 ^ 64
  | .insertFew x n | .removeFew x n => x < 2 ^ 32 ∧ n < 256
  | .insertSingle x | .removeSingle x => x < 2 ^ 32

theorem decUChange_enc (f : Fmt) (hT : TabOK (tablesUArrChange f) 6) (c : UArr.Change Nat) (rest : Bytes) (hc : WFUChange c) :
    decUChange f (encUChange f c ++ rest) = some (c, rest) := by
  cases c <;> simp only [WFUChange] at hc <;>
    simp only [encUChange, encUChangeWith, uctorIdx, List.append_assoc, decUChange, hT.decTag, hT.ctorOf, Nat.reduceLT,
      decElem_enc, decUsize_enc, decU8_enc, hc, Option.map_some]

def WFUDiff : UArr.Diff Nat → Prop
  | .replace l => (∀ x ∈ l, x < 2 ^ 32) ∧ l.length < 2 ^ 64
  | .modify es => (∀ c ∈ es, WFUChange c) ∧ es.length < 2 ^ 64

theorem decUDiff_enc (f : Fmt) (hC : TabOK (tablesUArrChange f) 6) (hD : TabOK (tablesUArrDiff f) 2)
    (d : UArr.Diff Nat) (rest : Bytes) (hd : WFUDiff d) :
    decUDiff f (encUDiff f d ++ rest) = some (d, rest) := by
  cases d <;> simp only [encUDiff, encUDiffWith, udiffIdx, List.append_assoc, decUDiff, hD.decTag, hD.ctorOf, Nat.reduceLT]
  · rw [decList_enc encElem decElem (· < 2 ^ 32) decElem_enc _ hd.1 hd.2 rest]; rfl
  · rw [decList_enc (encUChange f) (decUChange f) WFUChange (decUChange_enc f hC) _ hd.1 hd.2 rest]; rfl

def WFMChange : UMap.Change Nat Nat → Prop
  | .insertMany k v n => k < 2 ^ 32 ∧ v < 2 ^ 32 ∧ n < 2 ^ 64
  | .removeMany k n => k < 2 ^ 32 ∧ n < 2 ^ 64
  | .insertSingle k v => k < 2 ^ 32 ∧ v < 2 ^ 32
  | .removeSingle k => k < 2 ^ 32

theorem decMChange_enc (f : Fmt) (hT : TabOK (tablesUMapChange f) 4) (c : UMap.Change Nat Nat) (rest : Bytes) (hc : WFMChange c) :
    decMChange f (encMChange f c ++ rest) = some (c, rest) := by
  cases c <;> simp only [WFMChange] at hc <;>
    simp only [encMChange, encMChangeWith, mctorIdx, List.append_assoc, decMChange, hT.decTag, hT.ctorOf, Nat.reduceLT,
      decElem_enc, decUsize_enc, hc, Option.map_some]

theorem decPair_enc (kv : Nat × Nat) (rest : Bytes) (h : kv.1 < 2 ^ 32 ∧ kv.2 < 2 ^ 32) :
    decPair (encPair kv ++ rest) = some (kv, rest) := by
  simp only [encPair, decPair, List.append_assoc, decElem_enc kv.1 _ h.1, decElem_enc kv.2 _ h.2, Option.map_some]

def WFMDiff : UMap.Diff Nat Nat → Prop
  | .replace l => (∀ kv ∈ l, kv.1 < 2 ^ 32 ∧ kv.2 < 2 ^ 32) ∧ l.length < 2 ^ 64
  | .modify es => (∀ c ∈ es, WFMChange c) ∧ es.length < 2 ^ 64

theorem decMDiff_enc (f : Fmt) (hC : TabOK (tablesUMapChange f) 4) (hD : TabOK (tablesUMapDiff f) 2)
    (d : UMap.Diff Nat Nat) (rest : Bytes) (hd : WFMDiff d) :
    decMDiff f (encMDiff f d ++ rest) = some (d, rest) := by
  cases d <;> simp only [encMDiff, encMDiffWith, mdiffIdx, List.append_assoc, decMDiff, hD.decTag, hD.ctorOf, Nat.reduceLT]
  · rw [decList_enc encPair decPair (fun kv => kv.1 < 2 ^ 32 ∧ kv.2 < 2 ^ 32) decPair_enc _ hd.1 hd.2 rest]; rfl
  · rw [decList_enc (encMChange f) (decMChange f) WFMChange (decMChange_enc f hC) _ hd.1 hd.2 rest]; rfl

/-- the law a nested codec must satisfy on the values that occur -/
def Cdc.Law {β : Type} (c : Cdc β) (wf : β → Prop) : Prop := ∀ x rest, wf x → c.dec (c.enc x ++ rest) = some (x, rest)

/-- The law of a codec given by its two functions; laws of defined codecs start here (`plCdc_law` exposes the fields by
`simp only [plCdc]` instead). Left behind the projections
`.dec` / `.enc` of a definition, a round-trip goal makes the unifier unfold the decoder of the lemma applied instead, down
to `readLE` evaluating the length prefix of a symbolic length. -/
theorem Cdc.law_mk {β : Type} {e : β → Bytes} {d : Bytes → Option (β × Bytes)} {wf : β → Prop}
    (h : ∀ x rest, wf x → d (e x ++ rest) = some (x, rest)) : (Cdc.mk e d).Law wf := h

variable {ν δ : Type}

def WFRChange (wv : ν → Prop) (wd : δ → Prop) : RMap.Change Nat ν δ → Prop
  | .insert k v => k < 2 ^ 32 ∧ wv v
  | .remove k => k < 2 ^ 32
  | .change k d => k < 2 ^ 32 ∧ wd d

theorem decRChange_enc (f : Fmt) (hT : TabOK (tablesRMapChange f) 3) {V : Cdc ν} {D : Cdc δ} {wv : ν → Prop} {wd : δ → Prop}
    (hV : V.Law wv) (hD : D.Law wd) (c : RMap.Change Nat ν δ) (rest : Bytes) (hc : WFRChange wv wd c) :
    decRChange f V D (encRChange f V D c ++ rest) = some (c, rest) := by
  simp only [Cdc.Law] at hV hD
  cases c <;> simp only [WFRChange] at hc <;>
    simp only [encRChange, encRChangeWith, rctorIdx, List.append_assoc, decRChange, hT.decTag, hT.ctorOf, Nat.reduceLT,
      decElem_enc, hV, hD, hc, Option.map_some]

theorem decKV_enc {V : Cdc ν} {wv : ν → Prop} (hV : V.Law wv) (kv : Nat × ν) (rest : Bytes) (h : kv.1 < 2 ^ 32 ∧ wv kv.2) :
    decKV V (encKV V kv ++ rest) = some (kv, rest) := by
  simp only [encKV, decKV, List.append_assoc, decElem_enc kv.1 _ h.1, hV kv.2 rest h.2, Option.map_some]

def WFRDiff (wv : ν → Prop) (wd : δ → Prop) : RMap.Diff Nat ν δ → Prop
  | .replace l => (∀ kv ∈ l, kv.1 < 2 ^ 32 ∧ wv kv.2) ∧ l.length < 2 ^ 64
  | .modify es => (∀ c ∈ es, WFRChange wv wd c) ∧ es.length < 2 ^ 64

theorem decRDiff_enc (f : Fmt) (hC : TabOK (tablesRMapChange f) 3) (hDt : TabOK (tablesRMapDiff f) 2)
    {V : Cdc ν} {D : Cdc δ} {wv : ν → Prop} {wd : δ → Prop} (hV : V.Law wv) (hD : D.Law wd)
    (d : RMap.Diff Nat ν δ) (rest : Bytes) (hd : WFRDiff wv wd d) :
    decRDiff f V D (encRDiff f V D d ++ rest) = some (d, rest) := by
  cases d <;> simp only [encRDiff, encRDiffWith, rdiffIdx, List.append_assoc, decRDiff, hDt.decTag, hDt.ctorOf, Nat.reduceLT]
  · rw [decList_enc (encKV V) (decKV V) (fun kv => kv.1 < 2 ^ 32 ∧ wv kv.2) (decKV_enc hV) _ hd.1 hd.2 rest]; rfl
  · rw [decList_enc (encRChange f V D) (decRChange f V D) (WFRChange wv wd) (decRChange_enc f hC hV hD) _ hd.1 hd.2
      rest]; rfl

/-! derived struct diffs: entries framed by the rank of their field among the unskipped ones -/

theorem rank_le (skips : List Bool) (j : Nat) : rank skips j ≤ j := by
  induction skips generalizing j with
  | nil => exact Nat.zero_le _
  | cons b t ih =>
    cases j with
    | zero => exact Nat.le_refl _
    | succ j => have := ih j; simp only [rank]; split <;> omega

/-- the discriminant identifies the field: `unrank` inverts `rank` on unskipped positions -/
theorem unrank_rank (skips : List Bool) (j : Nat) (h : skips[j]? = some false) : unrank skips (rank skips j) = some j := by
  induction skips generalizing j with
  | nil => cases h
  | cons b t ih =>
    cases j with
    | zero => cases h; rfl
    | succ j =>
      cases b with
      | true => rw [rank, if_pos rfl, Nat.zero_add, unrank, ih j h]; rfl
      | false => rw [rank, if_neg Bool.false_ne_true, Nat.add_comm, unrank, ih j h]; rfl

theorem decDTag_enc (f : Fmt) (t : Nat) (rest : Bytes) (h : t < 2 ^ 16) : decDTag f (encDTag f t ++ rest) = some (t, rest) := by
  cases f
  · exact readLE_le 2 t rest h
  · exact readLE_le 4 t rest (Nat.lt_trans h (by decide))

variable {π : Type}

def WFEntry (skips : List Bool) (wf : Nat → π → Prop) (e : Nat × π) : Prop := skips[e.1]? = some false ∧ wf e.1 e.2

theorem decEntry_enc (f : Fmt) (skips : List Bool) (hs : skips.length < 2 ^ 16) (P : Nat → Cdc π) (wf : Nat → π → Prop)
    (hP : ∀ j, (P j).Law (wf j)) (e : Nat × π) (rest : Bytes) (he : WFEntry skips wf e) :
    decEntry f skips P (encEntry f skips P e ++ rest) = some (e, rest) := by
  obtain ⟨j, p⟩ := e
  obtain ⟨h1, h2⟩ := he
  obtain ⟨hj, _⟩ := List.getElem?_eq_some_iff.mp h1
  have hr : rank skips j < 2 ^ 16 := Nat.lt_of_le_of_lt (rank_le skips j) (Nat.lt_trans hj hs)
  simp only [encEntry, List.append_assoc, decEntry, decDTag_enc f _ _ hr, unrank_rank skips j h1, hP j p rest h2, Option.map_some]

theorem decEntries_enc (f : Fmt) (skips : List Bool) (hs : skips.length < 2 ^ 16) (P : Nat → Cdc π) (wf : Nat → π → Prop)
    (hP : ∀ j, (P j).Law (wf j)) (es : List (Nat × π)) (hes : ∀ e ∈ es, WFEntry skips wf e) (hlen : es.length < 2 ^ 64)
    (rest : Bytes) : decEntries f skips P (encEntries f skips P es ++ rest) = some (es, rest) :=
  decList_enc (encEntry f skips P) (decEntry f skips P) (WFEntry skips wf)
    (fun e r h => decEntry_enc f skips hs P wf hP e r h) es hes hlen rest

theorem rankW_le (ws : List Nat) (j : Nat) : rankW ws j ≤ (ws.take j).sum := by
  induction ws generalizing j with
  | nil => exact Nat.zero_le _
  | cons w t ih =>
    cases j with
    | zero => exact Nat.zero_le _
    | succ j => exact Nat.add_le_add_left (ih j) w

theorem unrankW_rankW (ws : List Nat) (j a w : Nat) (h : ws[j]? = some w) (ha : a < w) :
    unrankW ws (rankW ws j + a) = some (j, a) := by
  induction ws generalizing j with
  | nil => cases h
  | cons w0 t ih =>
    cases j with
    | zero =>
      cases h
      rw [rankW, Nat.zero_add, unrankW, if_pos ha]
    | succ j =>
      rw [rankW, unrankW, Nat.add_assoc, if_neg (Nat.not_lt.mpr (Nat.le_add_right ..)), Nat.add_sub_cancel_left, ih j h]
      rfl

theorem rankW_lt (ws : List Nat) (j a w : Nat) (h : ws[j]? = some w) (ha : a < w) : rankW ws j + a < ws.sum := by
  induction ws generalizing j with
  | nil => cases h
  | cons w0 t ih =>
    cases j with
    | zero =>
      cases h
      rw [rankW, Nat.zero_add]
      exact Nat.lt_add_right _ ha
    | succ j => exact Nat.add_assoc .. ▸ Nat.add_lt_add_left (ih j h) w0

theorem unrankW_none_iff (ws : List Nat) (t : Nat) : unrankW ws t = none ↔ ws.sum ≤ t := by
  induction ws generalizing t with
  | nil => exact iff_of_true rfl (Nat.zero_le _)
  | cons w r ih =>
    rw [unrankW, List.sum_cons]
    by_cases h : t < w
    · rw [if_pos h]
      exact iff_of_false (Option.some_ne_none _) (Nat.not_le.mpr (Nat.lt_add_right _ h))
    · rw [if_neg h, Option.map_eq_none_iff, ih]
      exact Nat.le_sub_iff_add_le' (Nat.le_of_not_lt h)

def WFEntryW (ws : List Nat) (wf : Nat → Nat → π → Prop) (e : (Nat × Nat) × π) : Prop :=
  (∃ w, ws[e.1.1]? = some w ∧ e.1.2 < w) ∧ wf e.1.1 e.1.2 e.2

theorem decEntryW_enc (f : Fmt) (ws : List Nat) (hs : ws.sum < 2 ^ 16) (P : Nat → Nat → Cdc π) (wf : Nat → Nat → π → Prop)
    (hP : ∀ j a, (P j a).Law (wf j a)) (e : (Nat × Nat) × π) (rest : Bytes) (he : WFEntryW ws wf e) :
    decEntryW f ws P (encEntryW f ws P e ++ rest) = some (e, rest) := by
  obtain ⟨⟨j, a⟩, p⟩ := e
  obtain ⟨⟨w, h1, h2⟩, h3⟩ := he
  have hr : rankW ws j + a < 2 ^ 16 := Nat.lt_trans (rankW_lt ws j a w h1 h2) hs
  simp only [encEntryW, List.append_assoc, decEntryW, decDTag_enc f _ _ hr, unrankW_rankW ws j a w h1 h2, hP j a p rest h3, Option.map_some]

theorem decEntriesW_enc (f : Fmt) (ws : List Nat) (hs : ws.sum < 2 ^ 16) (P : Nat → Nat → Cdc π) (wf : Nat → Nat → π → Prop)
    (hP : ∀ j a, (P j a).Law (wf j a)) (es : List ((Nat × Nat) × π)) (hes : ∀ e ∈ es, WFEntryW ws wf e) (hlen : es.length < 2 ^ 64)
    (rest : Bytes) : decEntriesW f ws P (encEntriesW f ws P es ++ rest) = some (es, rest) :=
  decList_enc (encEntryW f ws P) (decEntryW f ws P) (WFEntryW ws wf)
    (fun e r h => decEntryW_enc f ws hs P wf hP e r h) es hes hlen rest

theorem optTag_one (f : Fmt) : optTag f 1 = some true := rfl
theorem optTag_zero (f : Fmt) : optTag f 0 = some false := by cases f <;> rfl

theorem optCdc_law {β : Type} (f : Fmt) {c : Cdc β} {wf : β → Prop} (h : c.Law wf) :
    (optCdc f c).Law (fun o => ∀ x, o = some x → wf x) := by
  refine Cdc.law_mk fun o rest ho => ?_
  cases o with
  | none => simp [optTag_zero]
  | some x => simp [optTag_one, h x rest (ho x rfl)]

def WFPV (isOpt : Bool) : PV → Prop
  | .u v => isOpt = false ∧ v < 2 ^ 32
  | .o none => isOpt = true
  | .o (some v) => isOpt = true ∧ v < 2 ^ 32

theorem pvCdc_law (f : Fmt) (isOpt : Bool) : (pvCdc f isOpt).Law (WFPV isOpt) := by
  refine Cdc.law_mk fun x rest h => ?_
  cases x with
  | u v =>
    obtain ⟨rfl, h2⟩ := h
    simp [decElem_enc v rest h2]
  | o v =>
    cases v with
    | none => cases (h : isOpt = true); simp [optTag_zero]
    | some v =>
      obtain ⟨rfl, h2⟩ := h
      simp [optTag_one, decElem_enc v rest h2]

def WFVals : List Bool → List PV → Prop
  | [], [] => True
  | o :: t, v :: vs => WFPV o v ∧ WFVals t vs
  | _, _ => False

theorem valsCdc_law (f : Fmt) (opts : List Bool) : (valsCdc f opts).Law (WFVals opts) := by
  refine Cdc.law_mk fun vs rest h => ?_
  induction opts generalizing vs with
  | nil =>
    cases vs with
    | nil => rfl
    | cons _ _ => exact False.elim h
  | cons o t ih =>
    cases vs with
    | nil => exact False.elim h
    | cons v vs =>
      have e1 : (pvCdc f false).enc v = (pvCdc f o).enc v := rfl
      simp only [List.map_cons, List.flatten_cons, List.append_assoc, decVals, e1, pvCdc_law f o v _ h.1, ih vs h.2,
        Option.map_some]

def WFLeafEntries (L : LeafTy) (es : List (Nat × PV)) : Prop :=
  (∀ e ∈ es, WFEntry L.skips (fun j => WFPV (L.opts.getD j false)) e) ∧ es.length < 2 ^ 64

theorem leafEntriesCdc_law (f : Fmt) (L : LeafTy) (hL : L.skips.length < 2 ^ 16) :
    (leafEntriesCdc f L).Law (WFLeafEntries L) :=
  Cdc.law_mk fun es rest h =>
    decEntries_enc f L.skips hL _ _ (fun j => pvCdc_law f (L.opts.getD j false)) es h.1 h.2 rest

def WFPL : FKind → Nat → PL → Prop
  | .flat o, _, .pv p => WFPV o p
  | .nested L, _, .ne es => L.skips.length < 2 ^ 16 ∧ WFLeafEntries L es
  | .optNested L, 0, .on o => L.skips.length < 2 ^ 16 ∧ ∀ es, o = some es → WFLeafEntries L es
  | .optNested L, _ + 1, .full vs => WFVals L.opts vs
  | .ord, _, .sc s => (∀ c ∈ s, WFChange c) ∧ s.length < 2 ^ 64
  | .uarr, _, .ua d => WFUDiff d
  | .umap, _, .um d => WFMDiff d
  | .rmap L, _, .rm d => L.skips.length < 2 ^ 16 ∧ WFRDiff (WFVals L.opts) (WFLeafEntries L) d
  | _, _, _ => False

/-- every extracted discriminant table of the hand-written codecs is inverted by its decode table -/
structure AllTabs (f : Fmt) : Prop where
  script : TablesOK f
  uchange : TabOK (tablesUArrChange f) 6
  udiff : TabOK (tablesUArrDiff f) 2
  mchange : TabOK (tablesUMapChange f) 4
  mdiff : TabOK (tablesUMapDiff f) 2
  rchange : TabOK (tablesRMapChange f) 3
  rdiff : TabOK (tablesRMapDiff f) 2

theorem plCdc_law (f : Fmt) (hT : AllTabs f) (k : FKind) (alt : Nat) : (plCdc f k alt).Law (WFPL k alt) := by
  intro p rest h
  -- one case per equation of `WFPL`; in the ninth (no template matches) the first `simp` turns `h` into `False`
  fun_cases WFPL k alt p <;> simp only [WFPL] at h <;> simp only [plCdc]
  case case1 o p => rw [pvCdc_law f o p rest h]; rfl -- flat
  case case2 L es => rw [leafEntriesCdc_law f L h.1 es rest h.2]; rfl -- nested
  case case3 L o => rw [optCdc_law f (leafEntriesCdc_law f L h.1) o rest h.2]; rfl -- optNested, the optional list
  case case4 L n vs => rw [valsCdc_law f L.opts vs rest h]; rfl -- optNested, the whole value
  case case5 s => rw [decScript_enc f hT.script s h.1 h.2 rest]; rfl -- ord
  case case6 d => rw [decUDiff_enc f hT.uchange hT.udiff d rest h]; rfl -- uarr
  case case7 d => rw [decMDiff_enc f hT.mchange hT.mdiff d rest h]; rfl -- umap
  case case8 L d => -- rmap
    rw [decRDiff_enc f hT.rchange hT.rdiff (valsCdc_law f L.opts) (leafEntriesCdc_law f L h.1) d rest h.2]; rfl

end Codec
