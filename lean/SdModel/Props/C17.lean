import SdModel.Props.C01
import SdModel.Props.C03

/-!
# C17 — the derive accepts every supported declaration and the result obeys C01   (PARTIAL)

Whether rustc accepts the macro's expansion is validated on generated declarations (tools/props/c17.py):
there is no Lean model of the Rust type checker.  What IS a statement about every declaration is that
its semantics depends only on its shape: everything the declaration grammar adds on top of
`(skip?, strategy)` per field — visibility, generics, bounds, where clauses, attributes of other tools,
doc comments, attribute spelling and order — is erased by `shapeOf`, and the generated semantics is
`Derive.semTy (shapeOf decl)`, for which the round-trip and frame guarantees are proved for EVERY `Ty`
(Props/C01, Props/C03).
-/
namespace C17
open Derive

/-- strategy-relevant part of a field declaration -/
structure FieldDecl where
  vis : Nat                  -- 0 none / 1 pub / 2 pub(restricted)
  name : String
  docs : List String
  foreignAttrs : List String
  spelledSeparately : Bool   -- `#[difference(a)] #[difference(b)]` vs `#[difference(a, b)]`
  attrOrderSwapped : Bool
  trailingComma : Bool
  skip : Bool
  kind : Kind

/-- a struct declaration in the supported grammar (generic parameters and bounds are kept as text) -/
structure StructDecl where
  vis : Nat
  name : String
  generics : List String
  whereClauses : List String
  docs : List String
  foreignAttrs : List String
  expose : Option (Option String)
  fields : List FieldDecl

def fieldTys : List FieldDecl → FieldTys
  | [] => .nil
  | f :: fs => .cons f.skip f.kind (fieldTys fs)

def shapeOf (d : StructDecl) : Ty := .struct (fieldTys d.fields)

/-- two declarations that agree on (skip?, strategy) per field have the same generated semantics, whatever
their visibility, names, generics, bounds, docs, foreign attributes and attribute spelling -/
theorem semantics_depends_on_shape_only (d₁ d₂ : StructDecl)
    (h : d₁.fields.map (fun f => (f.skip, f.kind)) = d₂.fields.map (fun f => (f.skip, f.kind))) :
    semTy (shapeOf d₁) = semTy (shapeOf d₂) := by
  -- `fieldTys` reads nothing of a declaration but the list of its (skip?, strategy) pairs
  have key : ∀ l : List FieldDecl,
      fieldTys l = (l.map fun f => (f.skip, f.kind)).foldr (fun x r => .cons x.1 x.2 r) .nil := by
    intro l
    induction l with
    | nil => rfl
    | cons f fs ih => rw [fieldTys, ih]; rfl
  rw [shapeOf, shapeOf, key, key, h]

/-- an enum declaration in the supported grammar; the macro treats every enum as one opaque value -/
structure EnumDecl where
  vis : Nat
  name : String
  generics : List String
  whereClauses : List String
  docs : List String
  foreignAttrs : List String
  variants : List (String × Nat × List String)     -- (name, 0 unit / 1 tuple / 2 struct, field types as text)

def shapeOfEnum (_ : EnumDecl) : Ty := .enum

/-- whatever its variants, generics and attributes, an enum gets the whole-value semantics -/
theorem enum_semantics (d : EnumDecl) : semTy (shapeOfEnum d) = enumSem := rfl

/-- **the semantic half of C17**: for EVERY struct declaration of the grammar the generated implementation satisfies
the round-trip guarantee (C01) … -/
theorem decl_roundtrip (d : StructDecl) (a b : Val) (ha : (relTy (shapeOf d)).wt a) (hb : (relTy (shapeOf d)).wt b) :
    ∃ r, (semTy (shapeOf d)).apply a ((semTy (shapeOf d)).diff a b) = .ok r ∧ (relTy (shapeOf d)).wt r ∧
      (relTy (shapeOf d)).post a b r :=
  C01.roundtrip (shapeOf d) a b ha hb

/-- … and the frame guarantee (C03): any duplicate-free selection of the entries in any order touches only the
selected fields -/
theorem decl_frame (d : StructDecl) (a b : Val) (ha : (relTy (shapeOf d)).wt a) (hb : (relTy (shapeOf d)).wt b)
    (es : Entries) (hsub : ∀ e ∈ es, e ∈ (semTy (shapeOf d)).diff a b) (hnd : (es.map (·.1)).Nodup) :
    ∃ x y r, a = .strct x ∧ b = .strct y ∧ (semTy (shapeOf d)).apply a es = .ok (.strct r) ∧
      SWT (relFields (fieldTys d.fields)) r ∧
      ∀ j e, (relFields (fieldTys d.fields))[j]? = some e → ∃ va vb vr, valAt x j = some va ∧ valAt y j = some vb ∧
        valAt r j = some vr ∧ (if j ∈ es.map (·.1) then e.2.2.post va vb vr else vr = va) :=
  C03.subset_any_order (fieldTys d.fields) a b ha hb es hsub hnd

/-- the same for every enum declaration: the result is `b`, or — when `a == b` under the enum's own `PartialEq`
and nothing is sent — still `a` -/
theorem enum_decl_roundtrip (d : EnumDecl) (a b : Val) :
    ∃ r, (semTy (shapeOfEnum d)).apply a ((semTy (shapeOfEnum d)).diff a b) = .ok r ∧
      (r = b ∨ (r = a ∧ veq b a = true)) := by
  obtain ⟨r, h1, _, h3⟩ := C01.roundtrip (shapeOfEnum d) a b trivial trivial
  exact ⟨r, h1, h3⟩

end C17
