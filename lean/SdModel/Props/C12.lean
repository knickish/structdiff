import SdModel.Lemmas.UMap

/-!
# C12 — map-like diff round trip for maps, in both equality modes

`UMap.hashcmp prev cur keyOnly` / `UMap.apply` model `unordered_map_like::{unordered_hashcmp, apply_unordered_hashdiffs}`.
A map is a list of pairs with unique keys (`UniqueKeys`), observed through `plookup`.  Statements are per key,
hence independent of any hash-map iteration order.  `keyOnly` selects the collector only; the value comparison
of retained keys happens in both modes, exactly as in the code.
-/
namespace C12
open UMap
variable {κ ν : Type} [DecidableEq κ] [DecidableEq ν]

/-- **round trip for a FOLLOWER** (either mode, either representation): the diff computed from (prev, cur) applied
to any map `base` that equals `prev` as a map (whatever its iteration order) gives a map equal to `cur` -/
theorem roundtrip_follower (prev cur base : List (κ × ν)) (hp : UniqueKeys prev) (hc : UniqueKeys cur) (hb : UniqueKeys base)
    (hbp : ∀ k, plookup base k = plookup prev k) (b : Bool) (d : Diff κ ν)
    (h : hashcmp prev cur b = some d) :
    UniqueKeys (apply base d) ∧ ∀ k, plookup (apply base d) k = plookup cur k := by
  cases d with
  | replace r => rw [(hashcmp_eq_replace h).1, coll_unique b _ hc]; exact expand_ones cur _ (nodup_ones hc) (lookup_ones cur)
  | modify es =>
    rw [hashcmp_eq_modify h, coll_unique b _ hp, coll_unique b _ hc, apply_modify, collectKeyEq_unique base hb]
    obtain ⟨m1, m2⟩ := apply_entriesOf (ones prev) (ones cur) (ones base) (nodup_ones hp) (nodup_ones hc) (pos_ones _)
      (pos_ones _) (nodup_ones hb) (pos_ones _) (fun x => by rw [lookup_ones, lookup_ones, hbp])
    exact expand_ones cur _ m1 fun x => by rw [m2, lookup_ones]

/-- **round trip** (either mode, either representation): the result is a map (every key once) equal to
current key for key and value for value -/
theorem roundtrip (prev cur : List (κ × ν)) (hp : UniqueKeys prev) (hc : UniqueKeys cur) (b : Bool) (d : Diff κ ν)
    (h : hashcmp prev cur b = some d) :
    UniqueKeys (apply prev d) ∧ ∀ k, plookup (apply prev d) k = plookup cur k :=
  roundtrip_follower prev cur prev hp hc hp (fun _ => rfl) b d h

/-- both representations occur -/
example : hashcmp [(1, 10), (2, 20), (3, 30), (4, 40)] [(1, 11)] false = some (.replace [(1, 11)]) := by decide
example : hashcmp [(1, 10), (2, 20), (3, 30)] [(1, 10), (2, 21), (4, 40)] true
    = some (.modify [.removeSingle 2, .insertSingle 2 21, .insertSingle 4 40, .removeSingle 3]) := by decide

/-- a key whose value changed ends up with the new value, never the old one and never both -/
theorem changed_key (prev cur : List (κ × ν)) (hp : UniqueKeys prev) (hc : UniqueKeys cur) (b : Bool) (d : Diff κ ν)
    (h : hashcmp prev cur b = some d) (k : κ) (v v' : ν) (h1 : plookup prev k = some v) (h2 : plookup cur k = some v')
    (_hne : v ≠ v') : plookup (apply prev d) k = some v' ∧ UniqueKeys (apply prev d) := by
  obtain ⟨a1, a2⟩ := roundtrip prev cur hp hc b d h
  exact ⟨by rw [a2, h2], a1⟩

/-- the diff is absent exactly when the maps are equal -/
theorem absent_iff (prev cur : List (κ × ν)) (hp : UniqueKeys prev) (hc : UniqueKeys cur) (b : Bool) :
    hashcmp prev cur b = none ↔ ∀ k, plookup prev k = plookup cur k := by
  rw [hashcmp_none_iff, coll_unique b _ hp, coll_unique b _ hc, length_ones, length_ones]
  constructor
  · rintro ⟨_, hnil⟩ k
    have := (apply_entriesOf (ones prev) (ones cur) (ones prev) (nodup_ones hp) (nodup_ones hc) (pos_ones _) (pos_ones _)
      (nodup_ones hp) (pos_ones _) (fun _ => rfl)).2 k
    rw [hnil] at this
    exact Option.map_injective (fun _ _ h => (Prod.mk.inj h).1) (by rw [← lookup_ones, ← lookup_ones]; exact this)
  · intro h
    refine ⟨?_, entriesOf_eq_nil _ _ (nodup_ones hp) (nodup_ones hc) fun x => by rw [lookup_ones, lookup_ones, h]⟩
    have := Assoc.length_eq_of_keys hp hc fun k => by
      rw [← Assoc.lookup_isSome_iff, ← Assoc.lookup_isSome_iff, ← plookup_eq, ← plookup_eq, h]
    omega

end C12
