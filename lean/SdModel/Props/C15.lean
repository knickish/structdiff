import SdModel.Lemmas.DeriveIdx

/-!
# C15 — generated setters: the emitted diffs replay to the same state

`Derive.setterCall fields x i v` models calling the generated setter of field `i` (`FieldSem.setter` is the body per
template: compare, build the entry from old to new, assign).  `none` = no setter exists (skipped field, or the
key-and-value recursive map, for which the macro generates none).
-/
namespace C15
open Derive

/-- each setter call touches no other field and stores the given value in its field — except that the setters of
plain and nested fields compare first (`if self.f == value { return None }`) and leave the field as it is when the old
value is `==` to the given one under the type's own `PartialEq` (for a type whose `==` is identity that IS the given
value; for `0.0` / `-0.0` the old bit pattern stays) -/
theorem setter_stores (fields : Fields) (x : Val) (i : Nat) (v : Val) (ret : Option Entry) (x' : Val)
    (h : setterCall fields x i v = some (ret, x')) :
    ∃ vs old F, x = .strct vs ∧ valAt vs i = some old ∧ fieldAt fields i = some (false, F) ∧
      x' = .strct (setAt vs i (if F.setterKeeps old v then old else v)) ∧
      (∀ w j, j ≠ i → valAt (setAt vs i w) j = valAt vs j) := by
  unfold setterCall at h
  split at h
  · rename_i vs F hF
    cases hold : valAt vs i with
    | none => simp [hold] at h
    | some old =>
      simp only [hold] at h
      cases hs : F.setter old v with
      | none => simp [hs] at h
      | some r =>
        simp only [hs, Option.some.injEq, Prod.mk.injEq] at h
        exact ⟨vs, old, F, rfl, hold, hF, h.2.symm, fun w j hj => valAt_setAt_ne vs i j w hj⟩
  · cases h

theorem setterCall_inv (fts : FieldTys) (vs : Vals) (i : Nat) (v : Val) (ret : Option Entry) (x' : Val)
    (h : setterCall (semFields fts) (.strct vs) i v = some (ret, x')) :
    ∃ F R old r, (relFields fts)[i]? = some (false, F, R) ∧ valAt vs i = some old ∧ F.setter old v = some r ∧
      ret = r.map (fun p => (i, p)) ∧ x' = .strct (setAt vs i (if F.setterKeeps old v then old else v)) := by
  rw [← fieldsOf_rel] at h
  unfold setterCall at h
  rw [fieldAt_fieldsOf] at h
  cases hf : (relFields fts)[i]? with
  | none => simp [hf] at h
  | some e =>
    obtain ⟨sk, F, R⟩ := e
    cases sk with
    | true => simp [hf] at h
    | false =>
      simp only [hf, Option.map_some] at h
      cases ho : valAt vs i with
      | none => simp [ho] at h
      | some old =>
        simp only [ho] at h
        cases hs : F.setter old v with
        | none => simp [hs] at h
        | some r =>
          simp only [hs, Option.some.injEq, Prod.mk.injEq] at h
          exact ⟨F, R, old, r, rfl, rfl, hs, h.1.symm, h.2.symm⟩

/-- for the derive's templates: the stored value is the given one, or the old one when that is `==` to it (and then
nothing is returned) -/
theorem setter_stored_value (fts : FieldTys) (vs : Vals) (i : Nat) (v : Val) (ret : Option Entry) (x' : Val)
    (h : setterCall (semFields fts) (.strct vs) i v = some (ret, x')) :
    ∃ old w, valAt vs i = some old ∧ x' = .strct (setAt vs i w) ∧
      (w = v ∨ (w = old ∧ veq old v = true ∧ ret = none)) := by
  obtain ⟨F, R, old, r, hf, ho, hs, hret, hx⟩ := setterCall_inv fts vs i v ret x' h
  refine ⟨old, _, ho, hx, ?_⟩
  cases hk : F.setterKeeps old v with
  | false => exact .inl rfl
  | true =>
    have hok := (setter_ok_fields fts _ (List.mem_of_getElem? hf)).2 old v hk
    exact .inr ⟨rfl, hok.1, by rw [hret, hok.2 r hs]; rfl⟩

/-- the returned entry IS the entry a full diff has for that field (same position, same payload); it is absent iff
the field's strategy sees no change -/
theorem setter_returns_diff_entry (fts : FieldTys) (vs : Vals) (hw : SWT (relFields fts) vs) (i : Nat) (v : Val)
    (ret : Option Entry) (x' : Val) (h : setterCall (semFields fts) (.strct vs) i v = some (ret, x')) :
    ∃ F R old, (relFields fts)[i]? = some (false, F, R) ∧ valAt vs i = some old ∧
      ret = (F.diff old v).map (fun p => (i, p)) ∧ (R.wt v → (ret = none ↔ R.same old v)) := by
  obtain ⟨F, R, old, r, hf, ho, hs, hret, _⟩ := setterCall_inv fts vs i v ret x' h
  cases (setter_ok_fields fts _ (List.mem_of_getElem? hf)).1 old v r hs
  refine ⟨F, R, old, hf, ho, hret, fun hv => ?_⟩
  rw [hret, Option.map_eq_none_iff]
  exact (spec_fields fts _ (List.mem_of_getElem? hf)).none_iff old v (swt_of_valAt hw hf ho) hv

/-- any sequence of setter calls (calls for which no setter exists are skipped) : final receiver, returned entries -/
def runSetters (fields : Fields) : Val → List (Nat × Val) → Val × Entries
  | x, [] => (x, [])
  | x, (i, v) :: cs =>
    match setterCall fields x i v with
    | some (ret, x') => let r := runSetters fields x' cs; (r.1, ret.toList ++ r.2)
    | none => runSetters fields x cs

/-- **C15 replay**: applying all returned entries, in order, to ANY value equivalent to the initial one (in particular
a copy of it) returns normally and yields a value equivalent to the final receiver (the sense of C01/C02) -/
theorem replay (fts : FieldTys) (calls : List (Nat × Val))
    (hv : ∀ c ∈ calls, ∀ e, (relFields fts)[c.1]? = some e → e.2.2.wt c.2) :
    ∀ (x y : Vals), SWT (relFields fts) x → SWT (relFields fts) y → SEquiv (relFields fts) x y →
      ∃ xf r, (runSetters (semFields fts) (.strct x) calls).1 = .strct xf ∧ SWT (relFields fts) xf ∧
        sapplyG (semFields fts) 0 y (runSetters (semFields fts) (.strct x) calls).2 = .ok r ∧
        SWT (relFields fts) r ∧ SEquiv (relFields fts) xf r := by
  induction calls with
  | nil => intro x y hx hy he; exact ⟨x, y, rfl, hx, rfl, hy, he⟩
  | cons c cs ih =>
    obtain ⟨i, v⟩ := c
    intro x y hx hy he
    have hvs : ∀ c ∈ cs, ∀ e, (relFields fts)[c.1]? = some e → e.2.2.wt c.2 := fun c hc => hv c (List.mem_cons_of_mem _ hc)
    rw [runSetters]
    cases hcall : setterCall (semFields fts) (.strct x) i v with
    | none => exact ih hvs x y hx hy he
    | some rx =>
      obtain ⟨ret, x'⟩ := rx
      obtain ⟨F, R, old, hf, ho, hret, _⟩ := setter_returns_diff_entry fts x hx i v ret x' hcall
      obtain ⟨old', w, e1, rfl, e3⟩ := setter_stored_value fts x i v ret x' hcall
      cases ho.symm.trans e1
      rcases e3 with hw | ⟨rfl, _, rfl⟩
      case inr =>
        -- the setter returned before assigning: receiver unchanged, nothing emitted
        rw [setAt_self x i w ho]
        exact ih hvs x y hx hy he
      obtain rfl := hw.symm
      subst hret
      have hwv : R.wt v := hv (i, v) List.mem_cons_self _ hf
      have hwo := swt_of_valAt hx hf ho
      obtain ⟨fy, hy1, hwy⟩ := swt_at _ y hy i _ hf
      have hF := spec_fields fts _ (List.mem_of_getElem? hf)
      have heq : R.equiv old fy := sequiv_of_valAt he hf ho hy1
      have hx' : SWT (relFields fts) (setAt x i v) := swt_setAt _ x hx i _ hf v hwv
      cases hd : F.diff old v with
      | none =>
        -- nothing returned: the follower stays, and is still equivalent
        have heq' := hF.post_equiv fy v fy hwy hwv hwy (hF.stay old v fy hwo hwv hwy heq hd)
        have he' := sequiv_setAt _ x y he i false F R hf v fy (.inr heq')
        rw [setAt_self y i fy hy1] at he'
        exact ih hvs (setAt x i v) y hx' hy he'
      | some p =>
        obtain ⟨r0, f1, f2, f3⟩ := hF.follow old v fy p hwo hwv hwy heq hd
        have he' := sequiv_setAt _ x y he i false F R hf v r0 (.inr (hF.post_equiv fy v r0 hwy hwv f2 f3))
        have hone := sapplyOne_at (relFields fts) 0 y i F R fy r0 p hf hy1 f1
        rw [Nat.zero_add, fieldsOf_rel] at hone
        obtain ⟨xf, r, a1, a2, a3, a4, a5⟩ := ih hvs (setAt x i v) (setAt y i r0) hx' (swt_setAt _ y hy i _ hf r0 f2) he'
        exact ⟨xf, r, a1, a2, (sapplyG_cons_ok _ hone).trans a3, a4, a5⟩

/-- at the level of the trait: replay on a copy of the initial value -/
theorem replay_on_copy (fts : FieldTys) (x0 : Val) (h0 : (relTy (.struct fts)).wt x0) (calls : List (Nat × Val))
    (hv : ∀ c ∈ calls, ∀ e, (relFields fts)[c.1]? = some e → e.2.2.wt c.2) :
    ∃ r, (semTy (.struct fts)).apply x0 (runSetters (semFields fts) x0 calls).2 = .ok r ∧
      (relTy (.struct fts)).equiv (runSetters (semFields fts) x0 calls).1 r := by
  obtain ⟨x, rfl, hx⟩ := h0
  obtain ⟨xf, r, a1, a2, a3, a4, a5⟩ := replay fts calls hv x x hx hx (sequiv_refl _ (spec_fields fts) x hx)
  refine ⟨.strct r, ?_, ?_⟩
  · rw [semTy, structSem_apply, a3]; rfl
  · rw [a1]; exact ⟨xf, r, rfl, rfl, a5⟩

end C15
