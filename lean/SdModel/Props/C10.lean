import SdModel.Lemmas.SlotsIter

/-!
# C10 — the fixed-capacity slot array used as rope chunk behaves like a bounded sequence

Property theorems only (helper lemmas live in `Lemmas/Slots.lean`).  `Slots.Inv N s` is the
representation invariant (capacity `N ≤ 255`, every logical index `< cnt` held by exactly one cell),
`Slots.abs s` the logical sequence.  All theorems hold from EVERY layout satisfying the invariant,
reachable or not, for every capacity and every element type.
-/
namespace C10
open Slots
variable {α : Type}

/-- the decidable invariant the driver evaluates on real layouts is the invariant of the theorems -/
theorem invB_iff (N : Nat) (s : AM Nat) : invB N s = true → Inv N s := by
  intro h
  simp only [invB, Bool.and_eq_true, beq_iff_eq, decide_eq_true_eq, List.all_eq_true] at h
  obtain ⟨⟨⟨⟨h1, h2⟩, h3⟩, h4⟩, h5⟩ := h
  have hnd := nodup_of_nodupNat h3
  refine ⟨h1, h2, ?_⟩
  have hsub : (idxs s.cells).Subperm (List.range s.cnt) :=
    List.subperm_of_subset hnd fun x hx => List.mem_range.mpr (h5 x hx)
  have hperm : (idxs s.cells).Perm (List.range s.cnt) :=
    hsub.perm_of_length_le (Nat.le_of_eq (List.length_range.trans h4.symm))
  intro i
  rw [hperm.count_eq, List.count_range]

/-- `new()` is the empty sequence -/
theorem new_spec (N : Nat) (hN : N ≤ 255) :
    ∃ s : AM α, new N = .ok s ∧ Inv N s ∧ abs s = [] := by
  obtain ⟨s, h1, h2, h3⟩ := new_refines (α := α) N hN
  exact ⟨s, h1, h2, abs_of_refines h3⟩

/-- `from_iter` of at most `N` items is that sequence; more items panic -/
theorem fromIter_spec (N : Nat) (l : List α) (hN : N ≤ 255) (hl : l.length ≤ N) :
    ∃ s, fromIter N l = .ok s ∧ Inv N s ∧ abs s = l := by
  obtain ⟨s, h1, h2, h3⟩ := fromIter_refines N l hN hl
  exact ⟨s, h1, h2, abs_of_refines h3⟩

theorem len_spec {N : Nat} {s : AM α} (hI : Inv N s) : s.cnt = (abs s).length :=
  hI.refines_abs.1

/-- insert at a position `≤ len` while below capacity = `List.insertIdx` -/
theorem insert_spec {N : Nat} {s : AM α} (hI : Inv N s) (p : Nat) (v : α) (hp : p ≤ s.cnt) (hc : s.cnt < N) :
    ∃ s', Slots.insert s p v = .ok s' ∧ Inv N s' ∧ abs s' = (abs s).insertIdx p v := by
  obtain ⟨s', h1, h2, h3⟩ := insert_refines hI hI.refines_abs p v hp hc
  exact ⟨s', h1, h2, abs_of_refines h3⟩

/-- insert rejects a position outside the capacity and a full chunk -/
theorem insert_rejects {N : Nat} {s : AM α} (hI : Inv N s) (p : Nat) (v : α) (h : N ≤ p ∨ s.cnt = N) :
    ∃ e, Slots.insert s p v = .error e := by
  unfold Slots.insert
  by_cases hp : p < s.cells.length
  · have hfull : s.cnt = N := h.resolve_left (Nat.not_le.mpr (hI.length_cells ▸ hp))
    have : hasFree s.cells = false := Bool.eq_false_iff.mpr (mt hI.hasFree_iff.mp (Nat.ne_of_lt · hfull))
    simp [hp, this]
  · simp [hp]

/-- remove at a position `< len` returns that element and erases it -/
theorem remove_spec {N : Nat} {s : AM α} (hI : Inv N s) (p : Nat) (hp : p < s.cnt) :
    ∃ x s', remove s p = .ok (x, s') ∧ (abs s)[p]? = some x ∧ Inv N s' ∧ abs s' = (abs s).eraseIdx p := by
  obtain ⟨x, s', h1, h2, h3, h4⟩ := remove_refines hI hI.refines_abs p hp
  exact ⟨x, s', h1, h2, h3, abs_of_refines h4⟩

/-- swap of two positions `< len` exchanges the two elements -/
theorem swap_spec {N : Nat} {s : AM α} (hI : Inv N s) (a b : Nat) (ha : a < s.cnt) (hb : b < s.cnt) :
    ∃ s' x y, swap s a b = .ok s' ∧ Inv N s' ∧ (abs s)[a]? = some x ∧ (abs s)[b]? = some y ∧
      abs s' = ((abs s).set a y).set b x := by
  obtain ⟨s', h1, h2, h3⟩ := swap_refines hI hI.refines_abs a b ha hb
  exact ⟨s', _, _, h1, h2, List.getElem?_eq_getElem _, List.getElem?_eq_getElem _, abs_of_refines h3⟩

/-- range drain: returns the elements of the range in order, keeps the rest in order -/
theorem drain_spec {N : Nat} {s : AM α} (hI : Inv N s) (r : Rng) (hlo : r.lo ≤ hiN r s.cnt) :
    ∃ s', drain s r = .ok (((abs s).drop r.lo).take (hiN r s.cnt - r.lo), s') ∧ Inv N s' ∧
      abs s' = (abs s).take r.lo ++ (abs s).drop (hiN r s.cnt) := by
  obtain ⟨s', h1, h2, h3⟩ := drain_refines hI hI.refines_abs r hlo
  exact ⟨s', h1, h2, abs_of_refines h3⟩

/-- append into the free slots, within capacity -/
theorem extend_spec {N : Nat} {s : AM α} (hI : Inv N s) (vs : List α) (hc : s.cnt + vs.length ≤ N) :
    Inv N (extend s vs) ∧ abs (extend s vs) = abs s ++ vs := by
  obtain ⟨h1, h2⟩ := extend_refines hI hI.refines_abs vs hc
  exact ⟨h1, abs_of_refines h2⟩

/-- indexed read below the length returns that element; at or past the length it panics -/
theorem index_spec {N : Nat} {s : AM α} (hI : Inv N s) (i : Nat) :
    (∀ h : i < (abs s).length, index s i = .ok ((abs s)[i])) ∧ ((abs s).length ≤ i → ∃ e, index s i = .error e) := by
  exact ⟨fun h => index_ok hI.refines_abs i h, fun h => index_panics hI.refines_abs i h⟩

theorem set_spec {N : Nat} {s : AM α} (hI : Inv N s) (i : Nat) (v : α) (hi : i < s.cnt) :
    ∃ s', set s i v = .ok s' ∧ Inv N s' ∧ abs s' = (abs s).set i v := by
  obtain ⟨s', h1, h2, h3⟩ := set_refines hI hI.refines_abs i v hi
  exact ⟨s', h1, h2, abs_of_refines h3⟩

/-! ### every reachable layout: induction over operation histories -/

inductive Op (α : Type) where
  | insert (p : Nat) (v : α)
  | remove (p : Nat)
  | swap (a b : Nat)
  | drain (r : Rng)
  | extend (vs : List α)
  | set (i : Nat) (v : α)

def stepImpl (s : AM α) : Op α → Except String (AM α)
  | .insert p v => Slots.insert s p v
  | .remove p => (remove s p).map (·.2)
  | .swap a b => swap s a b
  | .drain r => (drain s r).map (·.2)
  | .extend vs => .ok (extend s vs)
  | .set i v => set s i v

/-- the same operation on a plain sequence of capacity `N`; `none` = the operation is not applicable
(outside the capacity / range the property speaks about) -/
def stepSpec (N : Nat) (l : List α) : Op α → Option (List α)
  | .insert p v => if p ≤ l.length ∧ l.length < N then some (l.insertIdx p v) else none
  | .remove p => if p < l.length then some (l.eraseIdx p) else none
  | .swap a b =>
    match l[a]?, l[b]? with
    | some x, some y => some ((l.set a y).set b x)
    | _, _ => none
  | .drain r => if r.lo ≤ hiN r l.length then some (l.take r.lo ++ l.drop (hiN r l.length)) else none
  | .extend vs => if l.length + vs.length ≤ N then some (l ++ vs) else none
  | .set i v => if i < l.length then some (l.set i v) else none

def runImpl (s : AM α) : List (Op α) → Except String (AM α)
  | [] => .ok s
  | op :: ops => match stepImpl s op with
    | .ok s' => runImpl s' ops
    | .error e => .error e

def runSpec (N : Nat) (l : List α) : List (Op α) → Option (List α)
  | [] => some l
  | op :: ops => match stepSpec N l op with
    | some l' => runSpec N l' ops
    | none => none

theorem step_refines {N : Nat} {s : AM α} (hI : Inv N s) (op : Op α) (l' : List α)
    (h : stepSpec N (abs s) op = some l') : ∃ s', stepImpl s op = .ok s' ∧ Inv N s' ∧ abs s' = l' := by
  have hlen := len_spec hI
  cases op with
  | insert p v =>
    obtain ⟨hc, ⟨⟩⟩ := Option.ite_none_right_eq_some.mp h
    exact insert_spec hI p v (hlen ▸ hc.1) (hlen ▸ hc.2)
  | remove p =>
    obtain ⟨hc, ⟨⟩⟩ := Option.ite_none_right_eq_some.mp h
    obtain ⟨x, s', h1, _, h3, h4⟩ := remove_spec hI p (hlen ▸ hc)
    exact ⟨s', by simp only [stepImpl, h1, Except.map], h3, h4⟩
  | swap a b =>
    simp only [stepSpec] at h
    split at h <;> cases h
    rename_i x y hx hy
    obtain ⟨s', x', y', h1, h2, h3, h4, h5⟩ := swap_spec hI a b
      (hlen ▸ (List.getElem?_eq_some_iff.mp hx).1) (hlen ▸ (List.getElem?_eq_some_iff.mp hy).1)
    rw [hx] at h3; rw [hy] at h4; cases h3; cases h4
    exact ⟨s', h1, h2, h5⟩
  | drain r =>
    obtain ⟨hc, ⟨⟩⟩ := Option.ite_none_right_eq_some.mp h
    rw [← hlen] at hc ⊢
    obtain ⟨s', h1, h2, h3⟩ := drain_spec hI r hc
    exact ⟨s', by simp only [stepImpl, h1, Except.map], h2, h3⟩
  | extend vs =>
    obtain ⟨hc, ⟨⟩⟩ := Option.ite_none_right_eq_some.mp h
    obtain ⟨h1, h2⟩ := extend_spec hI vs (hlen ▸ hc)
    exact ⟨_, rfl, h1, h2⟩
  | set i v =>
    obtain ⟨hc, ⟨⟩⟩ := Option.ite_none_right_eq_some.mp h
    exact set_spec hI i v (hlen ▸ hc)

/-- **C10 (mutations), every history**: from any layout satisfying the invariant, any sequence of
operations that is applicable on a plain bounded sequence runs without panic on the slot array and
leaves it representing exactly the sequence the plain one holds; the invariant is re-established
after every step, so every reachable layout satisfies it. -/
theorem history {N : Nat} (ops : List (Op α)) {s : AM α} (hI : Inv N s) (l' : List α)
    (h : runSpec N (abs s) ops = some l') : ∃ s', runImpl s ops = .ok s' ∧ Inv N s' ∧ abs s' = l' := by
  induction ops generalizing s with
  | nil => cases h; exact ⟨s, rfl, hI, rfl⟩
  | cons op ops ih =>
    simp only [runSpec] at h
    split at h
    · rename_i l1 h1
      obtain ⟨s1, e1, hI1, ha1⟩ := step_refines hI op l1 h1
      obtain ⟨s', e2, hI2, ha2⟩ := ih hI1 (ha1 ▸ h)
      exact ⟨s', by simp [runImpl, e1, e2], hI2, ha2⟩
    · cases h

/-- the same from the two constructors -/
theorem history_from_new {N : Nat} (hN : N ≤ 255) (ops : List (Op α)) (l' : List α)
    (h : runSpec N [] ops = some l') :
    ∃ s0 s', new N = .ok s0 ∧ runImpl s0 ops = .ok s' ∧ Inv N s' ∧ abs s' = l' := by
  obtain ⟨s0, h0, hI, ha⟩ := new_spec (α := α) N hN
  obtain ⟨s', h1, h2, h3⟩ := history ops hI l' (ha ▸ h)
  exact ⟨s0, s', h0, h1, h2, h3⟩

theorem history_from_iter {N : Nat} (hN : N ≤ 255) (l0 : List α) (hl : l0.length ≤ N) (ops : List (Op α)) (l' : List α)
    (h : runSpec N l0 ops = some l') :
    ∃ s0 s', fromIter N l0 = .ok s0 ∧ runImpl s0 ops = .ok s' ∧ Inv N s' ∧ abs s' = l' := by
  obtain ⟨s0, h0, hI, ha⟩ := fromIter_spec N l0 hN hl
  obtain ⟨s', h1, h2, h3⟩ := history ops hI l' (ha ▸ h)
  exact ⟨s0, s', h0, h1, h2, h3⟩

/-! ### iteration: forward, backward, and any interleaving of the two

`get_lookups` sorts the cells by logical index; the theorems say the table it builds lists the storage cells in
logical order for EVERY layout satisfying the invariant, and that the owning iterator — which clears the cells it
yields and moves two cursors — is a double-ended queue over the logical sequence. -/

/-- borrowed iteration `(&chunk).into_iter()` yields the logical sequence -/
theorem iter_spec {N : Nat} {s : AM α} (hI : Inv N s) : iter s = abs s := by
  exact iter_refines hI hI.refines_abs

/-- consuming iteration from the front yields the logical sequence -/
theorem intoIter_spec {N : Nat} {s : AM α} (hI : Inv N s) : intoList s = abs s := by
  have hR := hI.refines_abs
  have := (OInv.intoIter hI hR).drainFwd hI hR (fuel := s.cells.length + 1) (hI.length_cells ▸ Nat.lt_succ_of_le hI.cnt_le)
  rw [intoList, this, List.drop_zero, hR.1, List.take_length]

/-- **iterating a chunk from the back yields all remaining elements in reverse order** -/
theorem intoIter_rev_spec {N : Nat} {s : AM α} (hI : Inv N s) : intoListRev false s = (abs s).reverse := by
  have hR := hI.refines_abs
  have := (OInv.intoIter hI hR).drainBack hI hR (fuel := s.cells.length + 1) (hI.length_cells ▸ Nat.lt_succ_of_le hI.cnt_le)
  rw [intoListRev, this, List.drop_zero, hR.1, List.take_length]

/-- any interleaving of `next` (`false`) and `next_back` (`true`) calls behaves as a double-ended queue over the
logical sequence: fronts come out in order, backs in reverse order, nothing is yielded twice, and once the two
cursors meet every further call returns `None` -/
theorem intoIter_deque_spec {N : Nat} {s : AM α} (hI : Inv N s) (calls : List Bool) :
    (intoIter s).run false calls = dq (abs s) 0 (abs s).length calls := by
  have hR := hI.refines_abs
  rw [← hR.1]
  exact (OInv.intoIter hI hR).run hI hR calls

/-- the pre-fix `next_back` (`rev_pos += 1`, finding B) yielded only the last element: kept as a witness -/
theorem legacy_next_back_loses_elements :
    intoListRev true (⟨[some (0, 10), some (1, 20), some (2, 30)], 3⟩ : AM Nat) = [30] ∧
    intoListRev false (⟨[some (0, 10), some (1, 20), some (2, 30)], 3⟩ : AM Nat) = [30, 20, 10] := by decide

/-! ### non-vacuity: a concrete non-canonical layout (holes, permuted cells) meets the hypotheses -/

def exLayout : AM Nat := ⟨[some (1, 20), none, some (2, 30), some (0, 10), none], 3⟩
example : invB 5 exLayout = true := by decide
example : Inv 5 exLayout := invB_iff 5 exLayout (by decide)
example : abs exLayout = [10, 20, 30] := by decide
example : iter exLayout = [10, 20, 30] ∧ intoListRev false exLayout = [30, 20, 10] := by decide
example : (intoIter exLayout).run false [true, false, true, false, true] = [some 30, some 10, some 20, none, none] := by decide
example : runSpec 5 (abs exLayout) [.insert 1 15, .remove 0, .drain ⟨1, some 3⟩, .extend [7, 8]] = some [15, 7, 8] := by decide

end C10
