import SdModel.Lemmas.CodecU
import SdModel.Lemmas.WireTotalMap
import SdModel.Props.C05
import SdModel.Props.C08
import SdModel.Props.C11
import SdModel.Props.C20
import Batteries.Data.List.Perm

/-!
# C14 — diffs survive both wire formats, and a serialized DiffRef decodes as a Diff   (byte-level part: PARTIAL)

Proved at byte level, both formats, tables regenerated from the source: the hand-written codecs of the ordered script
(with C08) and of the unordered array-like, flat map-like and recursive map-like diffs round-trip, and the borrowed form
writes the owned form's bytes; so do the entry lists of derived struct diffs (discriminant = rank of the (field,
alternative); any inverse payload codecs; every field template over flat element types), also stated about the
derive model's own entry lists. Only validated end-to-end (tools/props/c14.py), not modelled byte by byte: the payload
encodings the codec derives generate for plain fields of other types and for generic parameters.
-/
namespace C14
open Codec Script

/-- the borrowed script form decodes, as the OWNED type, to exactly the script (both formats) -/
theorem ref_decodes_as_owned (f : Fmt) (s : List (Change Nat)) (hs : ∀ c ∈ s, WFChange c) (hlen : s.length < 2 ^ 64) :
    decScript f (encScriptRef f s) = some (s, []) := by
  rw [C08.ref_enc_eq_owned_enc]
  simpa using C08.dec_enc f s hs hlen []

theorem ref_same_effect (f : Fmt) (s : List (Change Nat)) (hs : ∀ c ∈ s, WFChange c) (hlen : s.length < 2 ^ 64)
    (xs : List Nat) :
    ∃ s', decScript f (encScriptRef f s) = some (s', []) ∧ Script.apply Gen.ropeParams s' xs = Script.apply Gen.ropeParams s xs :=
  ⟨s, ref_decodes_as_owned f s hs hlen, rfl⟩

/-- consistency of every extracted discriminant table: the borrowed form writes what the owned form writes
(all hand-written codecs: ordered, unordered array-like, flat map-like, recursive map-like), and every decode
table inverts its encode table -/
theorem all_tables_consistent :
    Gen.nanoOrderedRefEnc = Gen.nanoOrderedOwnedEnc ∧ Gen.nanoUArrChangeRefEnc = Gen.nanoUArrChangeOwnedEnc ∧
    Gen.nanoUArrDiffRefEnc = Gen.nanoUArrDiffOwnedEnc ∧ Gen.nanoUMapChangeRefEnc = Gen.nanoUMapChangeOwnedEnc ∧
    Gen.nanoUMapDiffRefEnc = Gen.nanoUMapDiffOwnedEnc ∧ Gen.nanoRMapChangeRefEnc = Gen.nanoRMapChangeOwnedEnc ∧
    Gen.nanoRMapDiffRefEnc = Gen.nanoRMapDiffOwnedEnc ∧
    Gen.serdeOrderedRefIdx = Gen.serdeOrderedOwnedIdx ∧ Gen.serdeRMapChangeRefIdx = Gen.serdeRMapChangeOwnedIdx ∧
    Gen.serdeRMapDiffRefIdx = Gen.serdeRMapDiffOwnedIdx := by decide

def inverts (enc : List Nat) (dec : List (Nat × Nat)) : Bool :=
  enc.zipIdx.all fun (t, k) => t < 256 && (dec.find? (·.1 = t)).map (·.2) == some k

theorem decode_tables_invert :
    inverts Gen.nanoOrderedOwnedEnc Gen.nanoOrderedOwnedDec = true ∧
    inverts Gen.nanoUArrChangeOwnedEnc Gen.nanoUArrChangeOwnedDec = true ∧
    inverts Gen.nanoUArrDiffOwnedEnc Gen.nanoUArrDiffOwnedDec = true ∧
    inverts Gen.nanoUMapChangeOwnedEnc Gen.nanoUMapChangeOwnedDec = true ∧
    inverts Gen.nanoUMapDiffOwnedEnc Gen.nanoUMapDiffOwnedDec = true ∧
    inverts Gen.nanoRMapChangeOwnedEnc Gen.nanoRMapChangeOwnedDec = true ∧
    inverts Gen.nanoRMapDiffOwnedEnc Gen.nanoRMapDiffOwnedDec = true := by decide

theorem all_tabs (f : Fmt) : AllTabs f := by
  cases f <;> exact ⟨C08.tables_ok _, by decide, by decide, by decide, by decide, by decide, by decide⟩

/-! ### unordered array-like and flat map-like diffs at byte level

`encUDiff` / `encUDiffRef` / `decUDiff` (and the `M` versions for maps) model the hand-written nanoserde codecs of
`unordered_array_like.rs` / `unordered_map_like.rs` and the layout bincode gives the serde-derived impls, for `u32`
items, keys and values; discriminants come from the tables regenerated from the source on this run.  The
correspondence check compares these bytes with the real encoders' output byte for byte (owned and borrowed form,
both formats) and feeds the real bytes to the model decoder. -/

/-- decode ∘ encode = id for every array-like diff value that fits the wire types, both formats -/
theorem uarr_dec_enc (f : Fmt) (d : UArr.Diff Nat) (hd : WFUDiff d) (rest : Bytes) :
    decUDiff f (encUDiff f d ++ rest) = some (d, rest) :=
  decUDiff_enc f (all_tabs f).uchange (all_tabs f).udiff d rest hd

/-- the borrowed form is byte-identical to the owned form -/
theorem uarr_ref_bytes_eq (f : Fmt) (d : UArr.Diff Nat) : encUDiffRef f d = encUDiff f d := by
  have h1 : (tablesUArrChange f).2.1 = (tablesUArrChange f).1 := by cases f <;> decide
  have h2 : (tablesUArrDiff f).2.1 = (tablesUArrDiff f).1 := by cases f <;> decide
  have : encUChangeRef f = encUChange f := by funext c; simp only [encUChangeRef, encUChange, h1]
  simp only [encUDiffRef, encUDiff, this, h2]

/-- hence a serialized array-like DiffRef decodes, as the OWNED type, to exactly the diff -/
theorem uarr_ref_decodes_as_owned (f : Fmt) (d : UArr.Diff Nat) (hd : WFUDiff d) :
    decUDiff f (encUDiffRef f d) = some (d, []) := by
  rw [uarr_ref_bytes_eq]; simpa using uarr_dec_enc f d hd []

theorem umap_dec_enc (f : Fmt) (d : UMap.Diff Nat Nat) (hd : WFMDiff d) (rest : Bytes) :
    decMDiff f (encMDiff f d ++ rest) = some (d, rest) :=
  decMDiff_enc f (all_tabs f).mchange (all_tabs f).mdiff d rest hd

theorem umap_ref_bytes_eq (f : Fmt) (d : UMap.Diff Nat Nat) : encMDiffRef f d = encMDiff f d := by
  have h1 : (tablesUMapChange f).2.1 = (tablesUMapChange f).1 := by cases f <;> decide
  have h2 : (tablesUMapDiff f).2.1 = (tablesUMapDiff f).1 := by cases f <;> decide
  have : encMChangeRef f = encMChange f := by funext c; simp only [encMChangeRef, encMChange, h1]
  simp only [encMDiffRef, encMDiff, this, h2]

theorem umap_ref_decodes_as_owned (f : Fmt) (d : UMap.Diff Nat Nat) (hd : WFMDiff d) :
    decMDiff f (encMDiffRef f d) = some (d, []) := by
  rw [umap_ref_bytes_eq]; simpa using umap_dec_enc f d hd []

/-! ### recursive map-like diffs: the hand-written framing around the nested codecs

The recursive map's codec frames keys, values and nested diff lists whose own encodings are generated by the codec
derives for the user's value type.  For ANY nested codecs that satisfy the round-trip law on the values that occur,
the framing round-trips and the borrowed form writes the same bytes as the owned form.  (The nested encodings
themselves are validated end-to-end, not modelled.) -/

theorem rmap_dec_enc {ν δ : Type} (f : Fmt) (V : Cdc ν) (D : Cdc δ) (wv : ν → Prop) (wd : δ → Prop)
    (hV : V.Law wv) (hD : D.Law wd) (d : RMap.Diff Nat ν δ) (hd : WFRDiff wv wd d) (rest : Bytes) :
    decRDiff f V D (encRDiff f V D d ++ rest) = some (d, rest) :=
  decRDiff_enc f (all_tabs f).rchange (all_tabs f).rdiff hV hD d rest hd

theorem rmap_ref_bytes_eq {ν δ : Type} (f : Fmt) (V : Cdc ν) (D : Cdc δ) (d : RMap.Diff Nat ν δ) :
    encRDiffRef f V D d = encRDiff f V D d := by
  have h1 : (tablesRMapChange f).2.1 = (tablesRMapChange f).1 := by cases f <;> decide
  have h2 : (tablesRMapDiff f).2.1 = (tablesRMapDiff f).1 := by cases f <;> decide
  have : encRChangeRef f V D = encRChange f V D := by funext c; simp only [encRChangeRef, encRChange, h1]
  simp only [encRDiffRef, encRDiff, this, h2]

/-! every diff the comparison PRODUCES fits the wire types (so the hypotheses above are met by construction):
`Few` counts fit a `u8` because the threshold extracted from the source is ≤ 255, `Many` counts and lengths are
bounded by the collection sizes -/

/-- whatever representation `mkChange` picks fits the wire: a `Few` count is at most the threshold, which fits a `u8` -/
theorem wf_mkChange (x n : Nat) (d : UArr.Dir) (hx : x < 2 ^ 32) (hn : n < 2 ^ 64) :
    WFUChange (UArr.mkChange Gen.fewMax x n d) := by
  by_cases h1 : n = 1
  · cases d <;> simp only [UArr.mkChange, h1, if_true] <;> exact hx -- Single
  by_cases h2 : n ≤ Gen.fewMax
  · cases d <;> simp only [UArr.mkChange, h1, h2, if_true, if_false] <;> -- Few
      exact ⟨hx, Nat.lt_succ_of_le (Nat.le_trans h2 C11.fewMax_fits)⟩
  · cases d <;> simp only [UArr.mkChange, h1, h2, if_false] <;> exact ⟨hx, hn⟩ -- Many

theorem uarr_produced_fits (prev cur : List Nat) (hp : ∀ x ∈ prev, x < 2 ^ 32) (hc : ∀ x ∈ cur, x < 2 ^ 32)
    (hlen : prev.length + cur.length < 2 ^ 64) (d : UArr.Diff Nat)
    (h : UArr.hashcmp Gen.fewMax prev cur = some d) : WFUDiff d := by
  cases d with
  | replace r =>
    have hperm : r.Perm cur := List.perm_iff_count.mpr (C20.arr_replace prev cur r h)
    exact ⟨fun x hx => hc x (hperm.mem_iff.mp hx), hperm.length_eq ▸ Nat.lt_of_le_of_lt (Nat.le_add_left ..) hlen⟩
  | modify es =>
    obtain ⟨hnd, hdelta, _⟩ := C20.arr_modify prev cur es h
    have hes := UArr.hashcmp_eq_modify h
    have hitem : ∀ e ∈ es, (UArr.changeItem e ∈ prev ++ cur) ∧ UArr.changeCount e ≤ prev.length + cur.length := by
      intro e he
      obtain ⟨i1, i2⟩ := hdelta e he
      cases hi : UArr.isInsert e with
      | true => exact ⟨List.mem_append_right _ (List.count_pos_iff.mp (Nat.zero_lt_of_lt (i1 hi).2)),
          (i1 hi).1 ▸ Nat.le_trans (Nat.sub_le ..) (Nat.le_trans List.count_le_length (Nat.le_add_left ..))⟩
      | false => exact ⟨List.mem_append_left _ (List.count_pos_iff.mp (Nat.zero_lt_of_lt (i2 hi).2)),
          (i2 hi).1 ▸ Nat.le_trans (Nat.sub_le ..) (Nat.le_trans List.count_le_length (Nat.le_add_right ..))⟩
    refine ⟨fun e he => ?_, ?_⟩
    · obtain ⟨x, n, dir, rfl⟩ := UArr.exists_mkChange_of_mem_entriesOf Gen.fewMax _ _ e (hes ▸ he)
      obtain ⟨hm, hn⟩ := hitem _ he
      obtain ⟨e1, e2, _⟩ := C11.mkChange_count x n dir
      rw [e1] at hm; rw [e2] at hn
      exact wf_mkChange x n dir ((List.mem_append.mp hm).elim (hp x) (hc x)) (Nat.lt_of_le_of_lt hn hlen)
    · have := (List.subperm_of_subset hnd fun x hx => by
        obtain ⟨e, he, rfl⟩ := List.mem_map.mp hx
        exact (hitem e he).1).length_le
      rw [List.length_map, List.length_append] at this
      exact Nat.lt_of_le_of_lt this hlen

/-! ### derived struct diffs (`Vec<generated enum>`): framing by the rank among the unskipped fields

The macro emits ONE enum variant per UNSKIPPED field, in declaration order, for the owned and for the borrowed diff
type alike; the codec derives write the variant's position as discriminant (`u16` / `u32`). The model's entries carry
the field INDEX; `Codec.rank` converts. These theorems are generic in the payload codecs (which the codec derives
generate for the field types) and are tied byte-for-byte to the real encoders on flat shapes (fields of type `u32`
and `Option<u32>`, any skip pattern) by the correspondence. -/

/-- two different unskipped fields never share a discriminant -/
theorem struct_discriminant_identifies_field (skips : List Bool) (i j : Nat) (hi : skips[i]? = some false)
    (hj : skips[j]? = some false) (h : rank skips i = rank skips j) : i = j := by
  have h1 := unrank_rank skips i hi
  rw [h, unrank_rank skips j hj] at h1
  exact (Option.some.inj h1).symm

/-- decode ∘ encode = id for every entry list that addresses unskipped fields, for ANY per-field payload codecs that
are inverse pairs on the payloads that occur, both formats (a struct has fewer than 2^16 fields) -/
theorem struct_entries_dec_enc {π : Type} (f : Fmt) (skips : List Bool) (hs : skips.length < 2 ^ 16) (P : Nat → Cdc π)
    (wf : Nat → π → Prop) (hP : ∀ j, (P j).Law (wf j)) (es : List (Nat × π)) (hes : ∀ e ∈ es, WFEntry skips wf e)
    (hlen : es.length < 2 ^ 64) (rest : Bytes) :
    decEntries f skips P (encEntries f skips P es ++ rest) = some (es, rest) :=
  decEntries_enc f skips hs P wf hP es hes hlen rest

/-- the serialized borrowed entry list is byte-identical to the serialized owned one whenever the borrowed payload
encoders write the same bytes (same variant order in both generated enums) -/
theorem struct_entries_ref_bytes_eq {π : Type} (f : Fmt) (skips : List Bool) (P Pr : Nat → Cdc π)
    (h : ∀ j p, (Pr j).enc p = (P j).enc p) (es : List (Nat × π)) : encEntries f skips Pr es = encEntries f skips P es :=
  encList_congr _ _ es fun e _ => by simp only [encEntry, h]

/-- the instance the correspondence ties to the real bytes: flat structs of `u32` / `Option<u32>` fields -/
theorem flat_struct_dec_enc (f : Fmt) (skips opts : List Bool) (hs : skips.length < 2 ^ 16) (es : List (Nat × PV))
    (hes : ∀ e ∈ es, WFEntry skips (fun j => WFPV (opts.getD j false)) e) (hlen : es.length < 2 ^ 64) (rest : Bytes) :
    decEntries f skips (fun j => pvCdc f (opts.getD j false)) (encEntries f skips (fun j => pvCdc f (opts.getD j false)) es ++ rest)
      = some (es, rest) :=
  decEntries_enc f skips hs _ _ (fun j => pvCdc_law f (opts.getD j false)) es hes hlen rest

/-- non-vacuity: fields (skipped, u32, Option<u32>, skipped, u32); entries for fields 1, 2 and 4 have discriminants 0, 1, 2 -/
example : (encEntries .nano [true, false, false, true, false] (fun j => pvCdc .nano ([false, false, true, false, false].getD j false))
    [(1, .u 7), (2, .o (some 9)), (4, .u 1)]) =
    [3, 0, 0, 0, 0, 0, 0, 0,  0, 0, 7, 0, 0, 0,  1, 0, 1, 9, 0, 0, 0,  2, 0, 1, 0, 0, 0] := by decide

/-! ### every field strategy inside the derived framing, as one byte string

Fields: flat (`u32`, `Option<u32>`), `recurse` into a flat struct (nested entry list), `Option` + `recurse` (TWO enum
variants: `f(Option<Vec<..>>)` and `f_full(T)`), `ordered_array_like` (script), `unordered_array_like`, flat
`unordered_map_like`, recursive `unordered_map_like` with flat values — the hand-written codecs of the collection
diffs inside the framing the codec derives generate for the macro's enums. A field contributes `width` variants
(0 when skipped); an entry addresses (field, alternative); its discriminant is `rankW widths field + alternative`.
Not modelled: plain fields of other types (nested structs, enums, floats, strings), generics. -/

def widths (skips : List Bool) (kinds : List FKind) : List Nat :=
  (skips.zip kinds).map fun (s, k) => if s then 0 else k.width

def fieldCdc (f : Fmt) (kinds : List FKind) (j alt : Nat) : Cdc PL := plCdc f (kinds.getD j (.flat false)) alt

/-- different (field, alternative) pairs never share a discriminant -/
theorem discriminant_identifies_variant (ws : List Nat) (i a j b wi wj : Nat) (hi : ws[i]? = some wi) (ha : a < wi)
    (hj : ws[j]? = some wj) (hb : b < wj) (h : rankW ws i + a = rankW ws j + b) : i = j ∧ a = b := by
  have h1 := unrankW_rankW ws i a wi hi ha
  rw [h, unrankW_rankW ws j b wj hj hb] at h1
  exact Prod.mk.inj (Option.some.inj h1.symm)

/-- decode ∘ encode = id for entry lists of such structs: framing, optional nested lists and whole values, scripts,
array-like and map-like diffs, recursive-map change lists / replacements, nested entry lists and values; both formats -/
theorem nested_struct_dec_enc (f : Fmt) (skips : List Bool) (kinds : List FKind)
    (hs : (widths skips kinds).sum < 2 ^ 16) (es : List ((Nat × Nat) × PL))
    (hes : ∀ e ∈ es, WFEntryW (widths skips kinds) (fun j a => WFPL (kinds.getD j (.flat false)) a) e)
    (hlen : es.length < 2 ^ 64) (rest : Bytes) :
    decEntriesW f (widths skips kinds) (fieldCdc f kinds) (encEntriesW f (widths skips kinds) (fieldCdc f kinds) es ++ rest)
      = some (es, rest) :=
  decEntriesW_enc f _ hs _ _ (fun j a => plCdc_law f (all_tabs f) (kinds.getD j (.flat false)) a) es hes hlen rest

/-- a discriminant that no generated variant has (from the number of variants on) is rejected by the decoder, whatever
bytes follow -/
theorem unknown_discriminant_rejected {π : Type} (f : Fmt) (ws : List Nat) (P : Nat → Nat → Cdc π) (t : Nat) (rest : Bytes)
    (h1 : ws.sum ≤ t) (h2 : t < 2 ^ 16) : decEntryW f ws P (encDTag f t ++ rest) = none := by
  simp only [decEntryW, decDTag_enc f t rest h2, (unrankW_none_iff ws t).mpr h1]

/-- the payload matches the kind and alternative of its field -/
def Fits : FKind → Nat → PL → Prop
  | .flat _, _, .pv _ | .nested _, _, .ne _ | .optNested _, 0, .on _ | .optNested _, _ + 1, .full _
  | .ord, _, .sc _ | .uarr, _, .ua _ | .umap, _, .um _ | .rmap _, _, .rm _ => True
  | _, _, _ => False

/-- on a payload that fits its field the borrowed encoder writes what the owned one writes -/
theorem plEncRef_eq (f : Fmt) (k : FKind) (a : Nat) (p : PL) (h : Fits k a p) : plEncRef f k a p = (plCdc f k a).enc p := by
  fun_cases Fits k a p
  -- flat, nested and the two alternatives of optNested: the same bytes by definition
  · rfl
  · rfl
  · rfl
  · rfl
  -- ord, uarr, umap, rmap: the borrowed tables are the owned ones
  · exact C08.ref_enc_eq_owned_enc f _
  · exact uarr_ref_bytes_eq f _
  · exact umap_ref_bytes_eq f _
  · exact rmap_ref_bytes_eq f _ _ _
  -- no template matches
  · simp only [Fits] at h

/-- the borrowed form of such an entry list is byte-identical to the owned form (flat payloads, nested lists and
whole values trivially, collection payloads because every borrowed discriminant table equals the owned one) -/
theorem nested_struct_ref_bytes_eq (f : Fmt) (ws : List Nat) (kinds : List FKind) (es : List ((Nat × Nat) × PL))
    (hes : ∀ e ∈ es, Fits (kinds.getD e.1.1 (.flat false)) e.1.2 e.2) :
    (encList (fun e => encDTag f (rankW ws e.1.1 + e.1.2) ++ plEncRef f (kinds.getD e.1.1 (.flat false)) e.1.2 e.2) es) =
      encEntriesW f ws (fieldCdc f kinds) es :=
  encList_congr _ _ es fun e he => by rw [plEncRef_eq f _ _ _ (hes e he)]; rfl

/-- non-vacuity: fields (ropt, skipped, u32): entries for ropt/`Some(..)`, ropt/full and the u32 field get discriminants
0, 1, 2 -/
example : (encEntriesW .nano (widths [false, true, false] [.optNested ⟨[false], [false]⟩, .flat false, .flat false])
      (fieldCdc .nano [.optNested ⟨[false], [false]⟩, .flat false, .flat false])
      [((0, 0), .on (some [(0, .u 5)])), ((0, 1), .full [.u 6]), ((2, 0), .pv (.u 7))]) =
    [3, 0, 0, 0, 0, 0, 0, 0,  0, 0, 1, 1, 0, 0, 0, 0, 0, 0, 0, 0, 0, 5, 0, 0, 0,  1, 0, 6, 0, 0, 0,  2, 0, 7, 0, 0, 0] := by decide

/-! ### the statement about the DERIVE model: its entry lists survive the wire

`Derive.toWire` re-expresses an entry list of the derive model (`Derive.Entries`, what `diff` / `diff_ref` return and
`apply` consumes in C01–C06) in the wire model; it is defined exactly when the values inside are flat. -/

/-- **C14 for derived types**: encode the entries of a derive-level diff, decode the bytes as the owned diff type:
the decoder returns exactly the entry list, both formats -/
theorem derive_entries_survive (f : Fmt) (skips : List Bool) (kinds : List FKind) (es : Derive.Entries)
    (w : List ((Nat × Nat) × PL)) (hw : Derive.toWire es = some w)
    (hs : (widths skips kinds).sum < 2 ^ 16)
    (hes : ∀ e ∈ w, WFEntryW (widths skips kinds) (fun j a => WFPL (kinds.getD j (.flat false)) a) e)
    (hlen : w.length < 2 ^ 64) :
    (decEntriesW f (widths skips kinds) (fieldCdc f kinds) (encEntriesW f (widths skips kinds) (fieldCdc f kinds) w)).map
      (fun r => Derive.fromWire r.1) = some es := by
  have h := nested_struct_dec_enc f skips kinds hs w hes hlen []
  simp only [List.append_nil] at h
  rw [h]
  simp only [Option.map_some, Derive.fromWire_toWire es w hw]

/-- the decoded entries have the same effect as the in-memory diff, on the value it was computed from and on any other -/
theorem derive_entries_same_effect (S : Derive.TySem) (f : Fmt) (skips : List Bool) (kinds : List FKind) (es : Derive.Entries)
    (w : List ((Nat × Nat) × PL)) (hw : Derive.toWire es = some w)
    (hs : (widths skips kinds).sum < 2 ^ 16)
    (hes : ∀ e ∈ w, WFEntryW (widths skips kinds) (fun j a => WFPL (kinds.getD j (.flat false)) a) e)
    (hlen : w.length < 2 ^ 64) (x : Derive.Val) :
    ∃ r, decEntriesW f (widths skips kinds) (fieldCdc f kinds) (encEntriesW f (widths skips kinds) (fieldCdc f kinds) w) = some r ∧
      S.apply x (Derive.fromWire r.1) = S.apply x es := by
  have h := nested_struct_dec_enc f skips kinds hs w hes hlen []
  simp only [List.append_nil] at h
  exact ⟨(w, []), h, by rw [Derive.fromWire_toWire es w hw]⟩

/-- … and the same for the borrowed form: `diff_ref` converted is `diff` (C05), and its bytes are the same bytes -/
theorem derive_ref_entries_survive (t : Derive.Ty) (a b : Derive.Val) :
    (Derive.semTy t).diffRef a b = (Derive.semTy t).diff a b := C05.diffRef_eq_diff t a b

/-- **C14 for the diffs themselves**: for a struct type whose unskipped fields are flat, nested flat, optional nested
flat, one of the three flat collection strategies or a recursive map of flat values (ALL eight templates) and a
flat-shaped target, `a.diff(&b)` IS expressible on the wire (`Derive.diff_toWire_defined_all`: no hypothesis on the
diff), and — the values fitting the wire types — encoding it and decoding the bytes as the owned diff type returns
exactly `a.diff(&b)` -/
theorem derive_diff_survives (f : Fmt) (fs : Derive.FieldTys) (skips : List Bool) (kinds : List FKind) (a b : Derive.Val)
    (hb : ∀ y, b = .strct y → Derive.StructFlatAll fs y) (hs : (widths skips kinds).sum < 2 ^ 16) :
    ∃ w, Derive.toWire ((Derive.semTy (.struct fs)).diff a b) = some w ∧
      ((∀ e ∈ w, WFEntryW (widths skips kinds) (fun j a => WFPL (kinds.getD j (.flat false)) a) e) → w.length < 2 ^ 64 →
        (decEntriesW f (widths skips kinds) (fieldCdc f kinds) (encEntriesW f (widths skips kinds) (fieldCdc f kinds) w)).map
          (fun r => Derive.fromWire r.1) = some ((Derive.semTy (.struct fs)).diff a b)) := by
  obtain ⟨w, hw⟩ := Option.isSome_iff_exists.mp (Derive.diff_toWire_defined_all fs a b hb)
  exact ⟨w, hw, fun hes hlen => derive_entries_survive f skips kinds _ w hw hs hes hlen⟩

/-- non-vacuity of the hypothesis: a struct with a plain field, an unordered field, an optional nested struct and a
recursive map of flat values, with a concrete flat-shaped target -/
example : Derive.StructFlatAll
    (.cons false .plain (.cons false .unordArr (.cons false (.recurseOpt (.struct (.cons false .plain .nil)))
      (.cons false (.recMap false (.struct (.cons false .plain (.cons true .plain .nil)))) .nil))))
    (.cons (.osome (.atom 3)) (.cons (.list [1, 1, 2]) (.cons (.osome (.strct (.cons (.atom 5) .nil)))
      (.cons (.rmap (.cons 7 (.strct (.cons (.atom 1) (.cons .onone .nil))) .nil)) .nil)))) := by
  refine ⟨.inr rfl, .inr trivial, .inr ?_, .inr ?_, trivial⟩
  · simp only [Derive.FieldFlatAll, Derive.FieldFlat, Derive.AllPlain, true_and]
    intro v hv
    cases hv
    exact ⟨_, rfl, rfl, trivial⟩
  · simp only [Derive.FieldFlatAll, Derive.RMapFlat, Derive.AllPlain, and_self, true_and]
    intro m hm x hx
    cases hm
    simp only [Derive.RMapV.toList, List.mem_singleton] at hx
    subst hx
    exact ⟨_, rfl, rfl, rfl, trivial⟩

/-- non-vacuity: an entry list with a plain value, an unordered change list, a nested list, a whole optional value
and a recursive-map change list is in the domain of `toWire` -/
def exEntries : Derive.Entries :=
  [(1, .val (.atom 3)), (2, .uarr (.modify [.insertSingle 2, .removeFew 1 3])), (3, .nested [(0, .val (.osome (.atom 7)))]),
   (4, .full (.strct (.cons (.atom 1) (.cons .onone .nil)))),
   (5, .rmap (.modify [.insert 4 (.strct (.cons (.atom 1) .nil)), .remove 2, .change 3 [(0, .val (.atom 9))]]))]

example : (Derive.toWire exEntries).isSome = true := by decide

end C14
