import SdModel.Lemmas.DeriveIdx

/-!
# C03 — diff entries are independent per field; skipped fields are never touched

For a struct with field descriptors `fts` (any templates, any nesting): every entry of `a.diff(&b)` is addressed to
one unskipped field; applying ANY sub-multiset of the entries (no entry twice) in ANY order returns normally and
yields a value whose selected fields satisfy their strategy's post-condition against `b` (C01) and whose every
other field is exactly `a`'s; and NO sequence of `apply_single` calls whatsoever — entries from any source —
changes a skipped field.
-/
namespace C03
open Derive

/-- `x` is the base `f` patched towards `b` at the positions `T` (the entries applied so far) and nowhere else -/
def Patched (fs : FS) (f b x : Vals) (T : List Nat) : Prop :=
  SWT fs x ∧ ∀ j e, fs[j]? = some e → ∃ vf vb vx, valAt f j = some vf ∧ valAt b j = some vb ∧ valAt x j = some vx ∧
    (if j ∈ T then e.2.2.post vf vb vx else vx = vf)

theorem patched_nil {fs : FS} {f b : Vals} (hf : SWT fs f) (hb : SWT fs b) : Patched fs f b f [] := by
  refine ⟨hf, fun j e hj => ?_⟩
  obtain ⟨vf, h1, _⟩ := swt_at fs f hf j e hj
  obtain ⟨vb, h2, _⟩ := swt_at fs b hb j e hj
  exact ⟨vf, vb, vf, h1, h2, h1, by simp⟩

theorem patched_step {fs : FS} (hs : ∀ x ∈ fs, FieldSpec x.2.1 x.2.2) {a b f : Vals} (ha : SWT fs a) (hb : SWT fs b)
    (hf : SWT fs f) (he : SEquiv fs a f) {x : Vals} {T : List Nat} (hinv : Patched fs f b x T) {n : Nat} {p : Payload}
    (hmem : (n, p) ∈ sdiffG (·.diff) (fieldsOf fs) 0 a b) (hn : n ∉ T) :
    ∃ x', sapplyOne (fieldsOf fs) 0 (n, p) x = .ok x' ∧ Patched fs f b x' (n :: T) := by
  obtain ⟨F, R, va, vb, e2, e3, e4, e5⟩ := mem_sdiffG_zero.mp hmem
  obtain ⟨vf, vb', vx, i1, i2, i3, i4⟩ := hinv.2 n _ e2
  cases e4.symm.trans i2
  rw [if_neg hn] at i4
  subst i4
  obtain ⟨r0, f1, f2, f3⟩ := (hs _ (List.mem_of_getElem? e2)).follow va vb vx p (swt_of_valAt ha e2 e3) (swt_of_valAt hb e2 e4)
    (swt_of_valAt hf e2 i1) (sequiv_of_valAt he e2 e3 i1) e5
  have := sapplyOne_at fs 0 x n F R vx r0 p e2 i3 f1
  rw [Nat.zero_add] at this
  refine ⟨setAt x n r0, this, swt_setAt fs x hinv.1 n _ e2 r0 f2, fun j e hj => ?_⟩
  by_cases hjn : j = n
  · subst hjn
    cases e2.symm.trans hj
    exact ⟨vx, vb, r0, i1, e4, valAt_setAt_same x j r0 vx i3, by rw [if_pos List.mem_cons_self]; exact f3⟩
  · obtain ⟨vf', vb', vx', i1, i2, i3', i4⟩ := hinv.2 j e hj
    refine ⟨vf', vb', vx', i1, i2, by rw [valAt_setAt_ne x n j r0 hjn]; exact i3', ?_⟩
    simp only [List.mem_cons, hjn, false_or]
    exact i4

/-- C03 on `Vals` and for any follower `f` of `a` as the base: any duplicate-free selection of the entries of `diff a b`,
in any order.  (`reverse`: one more applied entry then is `n :: T` on the right, an identity of lists.) -/
theorem subset_any_order_follower {fs : FS} (hs : ∀ x ∈ fs, FieldSpec x.2.1 x.2.2) {a b f : Vals} (ha : SWT fs a)
    (hb : SWT fs b) (hf : SWT fs f) (he : SEquiv fs a f) (es : Entries) : ∀ (x : Vals) (T : List Nat), Patched fs f b x T →
      (∀ e ∈ es, e ∈ sdiffG (·.diff) (fieldsOf fs) 0 a b) → (es.map (·.1)).Nodup → (∀ e ∈ es, e.1 ∉ T) →
      ∃ r, sapplyG (fieldsOf fs) 0 x es = .ok r ∧ Patched fs f b r ((es.map (·.1)).reverse ++ T) := by
  induction es with
  | nil => intro x T h _ _ _; exact ⟨x, rfl, h⟩
  | cons e es ih =>
    obtain ⟨n, p⟩ := e
    intro x T hinv hsub hnd hT
    simp only [List.map_cons, List.nodup_cons] at hnd
    obtain ⟨x', s1, s2⟩ := patched_step hs ha hb hf he hinv (hsub _ List.mem_cons_self) (hT _ List.mem_cons_self)
    obtain ⟨r, r1, r2⟩ := ih x' (n :: T) s2 (fun e he => hsub e (List.mem_cons_of_mem _ he)) hnd.2 fun e he =>
      List.not_mem_cons_of_ne_of_not_mem (fun h => hnd.1 (List.mem_map.mpr ⟨e, he, h⟩)) (hT e (List.mem_cons_of_mem _ he))
    refine ⟨r, (sapplyG_cons_ok es s1).trans r1, ?_⟩
    simpa using r2

/-- **C03**: any sub-multiset of the entries of `a.diff(&b)`, in any order -/
theorem subset_any_order (fts : FieldTys) (a b : Val)
    (ha : (relTy (.struct fts)).wt a) (hb : (relTy (.struct fts)).wt b) (es : Entries)
    (hsub : ∀ e ∈ es, e ∈ (semTy (.struct fts)).diff a b) (hnd : (es.map (·.1)).Nodup) :
    ∃ x y r, a = .strct x ∧ b = .strct y ∧ (semTy (.struct fts)).apply a es = .ok (.strct r) ∧
      SWT (relFields fts) r ∧
      ∀ j e, (relFields fts)[j]? = some e → ∃ va vb vr, valAt x j = some va ∧ valAt y j = some vb ∧ valAt r j = some vr ∧
        (if j ∈ es.map (·.1) then e.2.2.post va vb vr else vr = va) := by
  obtain ⟨x, rfl, hx⟩ := ha
  obtain ⟨y, rfl, hy⟩ := hb
  simp only [semTy_struct_diff] at hsub
  obtain ⟨r, r1, r2⟩ := subset_any_order_follower (spec_fields fts) hx hy hx (sequiv_refl _ (spec_fields fts) x hx) es x []
    (patched_nil hx hy) hsub hnd (by simp)
  refine ⟨x, y, r, rfl, rfl, ?_, r2.1, fun j e hj => ?_⟩
  · rw [semTy_struct_apply, r1]; rfl
  · obtain ⟨va, vb, vr, h1, h2, h3, h4⟩ := r2.2 j e hj
    refine ⟨va, vb, vr, h1, h2, h3, ?_⟩
    simp only [List.append_nil, List.mem_reverse] at h4
    exact h4

/-- no entry is ever produced for a skipped field: every entry addresses an unskipped field whose values differ -/
theorem entries_address_unskipped (fts : FieldTys) (x y : Vals) (n : Nat) (p : Payload)
    (h : (n, p) ∈ (semTy (.struct fts)).diff (.strct x) (.strct y)) :
    ∃ F R va vb, (relFields fts)[n]? = some (false, F, R) ∧ valAt x n = some va ∧ valAt y n = some vb ∧
      F.diff va vb = some p := by
  rw [semTy_struct_diff] at h
  exact mem_sdiffG_zero.mp h

/-- NO sequence of apply calls changes a skipped field: whatever the entries (from a diff of other values, forged,
repeated), if the application returns then every skipped position holds what it held before; an entry addressed to
a skipped field cannot even be expressed (the variant does not exist: the model rejects it) -/
theorem skipped_never_touched (fts : FieldTys) (x : Vals) (es : Entries) (r : Val)
    (h : (semTy (.struct fts)).apply (.strct x) es = .ok r) :
    ∃ z, r = .strct z ∧ ∀ j F R, (relFields fts)[j]? = some (true, F, R) → valAt z j = valAt x j := by
  rw [semTy_struct_apply] at h
  induction es generalizing x with
  | nil =>
    cases h
    exact ⟨x, rfl, fun _ _ _ _ => rfl⟩
  | cons e es ih =>
    obtain ⟨n, p⟩ := e
    simp only [sapplyG] at h
    cases h1 : sapplyOne (fieldsOf (relFields fts)) 0 (n, p) x with
    | error m => rw [h1] at h; cases h
    | ok x' =>
      rw [h1] at h
      obtain ⟨z, hz, hframe⟩ := ih x' h
      obtain ⟨j, F, R, v, v', e1, e2, e3, e4, e5⟩ := sapplyOne_frame _ 0 x x' n p h1
      refine ⟨z, hz, fun j' F' R' hj' => ?_⟩
      rw [hframe j' F' R' hj', e5]
      refine valAt_setAt_ne x j j' v' fun e => ?_
      cases e2.symm.trans (e ▸ hj')

end C03
