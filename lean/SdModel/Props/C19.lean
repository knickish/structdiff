import SdModel.Lemmas.UArr
import SdModel.Lemmas.UMap

/-!
# C19 — unordered patching is total: saturating counts, never a panic   (array-like part)

`UArr.apply` is a total function whose every `get_mut` / subtraction / partition arm is modelled
(the "Sorting failure" arms are unreachable after `partition`, see `Model/UArr.lean`); the theorems give
its exact effect for an ARBITRARY base and an ARBITRARY diff value, not only one computed from that base.
-/
namespace C19
open UArr
variable {α : Type} [DecidableEq α]

/-- per item: base count minus removed (not below zero) plus inserted -/
theorem arr_modify (base : List α) (es : List (Change α)) (x : α) :
    (apply base (.modify es)).count x = (base.count x - removed es x) + inserted es x :=
  count_apply_modify base es x

/-- a full replacement yields exactly the carried collection -/
theorem arr_replace (base r : List α) : apply base (.replace r) = r := rfl

/-- the result depends on the base only through its counts, and on the change list only as a multiset:
any iteration order of the hash maps involved gives the same multiset -/
theorem arr_order_free (base base' : List α) (es es' : List (Change α))
    (hb : ∀ x, base.count x = base'.count x) (he : es.Perm es') (x : α) :
    (apply base (.modify es)).count x = (apply base' (.modify es')).count x := by
  rw [arr_modify, arr_modify, hb x]
  have h1 : inserted es x = inserted es' x := by
    unfold inserted total
    exact ((he.filter _).map _).sum_nat
  have h2 : removed es x = removed es' x := by
    unfold removed total
    exact ((he.filter _).map _).sum_nat
  rw [h1, h2]

example : (apply [5, 1] (.modify [.removeSingle 1, .insertSingle 3, .removeFew 2 7])).count 2 = 0 := by decide

section MapLike
open UMap
variable {κ ν : Type} [DecidableEq κ] [DecidableEq ν]

def keysOfDiff : UMap.Diff κ ν → List κ
  | .replace r => r.map (·.1)
  | .modify es => es.map keyOf

/-- applying ANY flat map-like diff to ANY base map returns normally (`UMap.apply` is total: every `get_mut`,
guard and `unreachable!` arm is modelled) and yields only keys that were in the base or in the diff -/
theorem map_total_keys (base : List (κ × ν)) (d : UMap.Diff κ ν) :
    ∀ kv ∈ UMap.apply base d, kv.1 ∈ base.map (·.1) ∨ kv.1 ∈ keysOfDiff d := by
  intro kv hkv
  cases d with
  | replace r => exact .inr (List.mem_map_of_mem (f := (·.1)) hkv)
  | modify es =>
    rcases mem_keys_applyInsertions _ _ _ (mem_keys_expand _ kv hkv) with h | h
    · exact .inl (mem_keys_collectKeyEq base _ (mem_keys_applyRemovals _ _ _ h))
    · exact .inr (List.map_subset _ List.filter_sublist.subset h)

end MapLike

end C19
