import SdModel.Lemmas.Codec
import SdModel.Props.C09

/-!
# C08 — ordered patch scripts received over the wire execute with exact list semantics

`Script.apply` is the model of `ordered_array_like::apply` (collect into a rope, apply each change through the
rope operation the code uses, iterate out); `Script.runList` is the reference semantics on a plain growable
array (assign / insert-before / remove / remove inclusive range / exchange), `none` as soon as an index is out
of range at the moment it is used.  The wire theorems are instantiated at the discriminant tables and
declaration orders regenerated from the source on this run.
-/
namespace C08
open Script Codec

variable {α : Type}

theorem listSwap_eq (L : List α) (a b : Nat) : Script.listSwap L a b = Rope.listSwap L a b := rfl

/-- one change: the rope operation has exactly the list effect and re-establishes the invariant.
`applyList` and `C09.stepVec` are the same function branch for branch, so `h` passes across by unfolding. -/
theorem change_ok (P : Rope.Params) (hw : Rope.PWF P) (c : Change α) (r : Rope.Chunks α) (hI : Rope.RInv P r)
    (L' : List α) (h : applyList c (Rope.flat r) = some L') :
    ∃ r', applyRope P c r = .ok r' ∧ Rope.RInv P r' ∧ Rope.flat r' = L' :=
  match c with
  | .replace v i => C09.step_ok P hw r hI (.set i v) L' h
  | .insert v i => C09.step_ok P hw r hI (.insert i v) L' h
  | .delete i none => C09.step_ok P hw r hI (.remove i) L' h
  | .delete l (some hh) => C09.step_ok P hw r hI (.drain l hh) L' h
  | .swap a b => C09.step_ok P hw r hI (.swap a b) L' h

theorem run_ok (P : Rope.Params) (hw : Rope.PWF P) (s : List (Change α)) (r : Rope.Chunks α) (hI : Rope.RInv P r)
    (L' : List α) (h : runList s (Rope.flat r) = some L') :
    ∃ r', runRope P s r = .ok r' ∧ Rope.RInv P r' ∧ Rope.flat r' = L' := by
  induction s generalizing r with
  | nil => cases h; exact ⟨r, rfl, hI, rfl⟩
  | cons c cs ih =>
    simp only [runList] at h
    split at h
    · rename_i L1 h1
      obtain ⟨r1, e1, hI1, rfl⟩ := change_ok P hw c r hI L1 h1
      simpa only [runRope, e1] using ih r1 hI1 h
    · cases h

/-- **C08 (execution)**: any well-formed script — every index in range at the moment it is used, any length,
any index order, swaps and ranged deletes included, whether or not this library would emit it — applied by
`ordered_array_like::apply` gives exactly what executing it on a plain growable array gives, and never panics. -/
theorem script_rope_eq_list (s : List (Change α)) (xs L' : List α) (h : runList s xs = some L') :
    Script.apply Gen.ropeParams s xs = .ok L' := by
  obtain ⟨hI, hf⟩ := Rope.fromIter_spec Gen.ropeParams C09.params_wf xs
  obtain ⟨r', h1, _, h3⟩ := run_ok Gen.ropeParams C09.params_wf s _ hI L' (by rw [hf]; exact h)
  simp only [Script.apply, h1, Rope.intoList, h3]

theorem tables_nano : TablesOK .nano := by unfold TablesOK; decide

theorem tables_bincode : TablesOK .bincode := by unfold TablesOK; decide

theorem tables_ok (f : Fmt) : TablesOK f := by cases f; exact tables_nano; exact tables_bincode

theorem dec_enc (f : Fmt) (s : List (Change Nat)) (hs : ∀ c ∈ s, WFChange c) (hlen : s.length < 2 ^ 64) (rest : Bytes) :
    decScript f (encScript f s ++ rest) = some (s, rest) :=
  decScript_enc f (tables_ok f) s hs hlen rest

/-- re-encoding a decoded script reproduces the received bytes, for every byte string a conforming encoder can produce -/
theorem reencode (f : Fmt) (bytes : Bytes) (s0 : List (Change Nat)) (hs : ∀ c ∈ s0, WFChange c) (hlen : s0.length < 2 ^ 64)
    (hb : bytes = encScript f s0) (s : List (Change Nat)) (rest : Bytes) (hd : decScript f bytes = some (s, rest)) :
    encScript f s ++ rest = bytes := by
  subst hb
  cases hd.symm.trans (List.append_nil (encScript f s0) ▸ dec_enc f s0 hs hlen [])
  exact List.append_nil _

/-- the borrowed form writes the same discriminants / variant indices as the owned form -/
theorem ref_tables_eq (f : Fmt) : (tables f).2.1 = (tables f).1 := by cases f <;> decide

theorem ref_enc_eq_owned_enc (f : Fmt) (s : List (Change Nat)) : encScriptRef f s = encScript f s := by
  have : encChangeRef f = encChange f := by funext c; simp only [encChangeRef, encChange, ref_tables_eq]
  simp only [encScriptRef, encScript, this]

/-- decode-then-apply = list semantics: the end-to-end statement of the property -/
theorem wire_then_apply (f : Fmt) (s : List (Change Nat)) (hs : ∀ c ∈ s, WFChange c) (hlen : s.length < 2 ^ 64)
    (xs L' : List Nat) (h : runList s xs = some L') :
    ∃ s', decScript f (encScript f s) = some (s', []) ∧ Script.apply Gen.ropeParams s' xs = .ok L' ∧ encScript f s' = encScript f s :=
  ⟨s, List.append_nil (encScript f s) ▸ dec_enc f s hs hlen [], script_rope_eq_list s xs L' h, rfl⟩

/-! ### non-vacuity -/
example : runList [Change.swap 0 3, .delete 1 (some 2), .insert 9 1, .replace 7 0, .delete 2 none] [1, 2, 3, 4] = some [7, 9] := by decide
example : ∀ c ∈ [Change.swap 0 3, .delete 1 (some 2), .insert 9 1], WFChange c := by
  intro c hc; simp at hc; rcases hc with rfl | rfl | rfl <;> simp [WFChange]

end C08
