import SdModel.Props.C11
import SdModel.Props.C19
import SdModel.Props.C12

/-!
# C16 — feature selection never changes diff/apply semantics

The configuration space (6 features, 64 sets) is enumerated by the check; what is PROVED is that the two
semantic degrees of freedom a feature has cannot matter:
* the hasher (`rustc_hash` vs std, per-instance random keys) only changes iteration order: results are
  order-free (`C19.arr_order_free`, and every C11-C13 statement is on counts / per key);
* `debug_asserts` only adds assertions that can never fire (`C11.debug_asserts_unreachable`).
Trait bounds, derive lists and codec impls are validated per configuration, not proved.
-/
namespace C16
open UArr

/-- hasher independence, array-like: any permutation of the inputs' elements and of the change list (= any
iteration order of the hash maps involved) yields the same multiset -/
theorem hasher_independent {α : Type} [DecidableEq α] (base base' : List α) (es es' : List (Change α))
    (hb : base.Perm base') (he : es.Perm es') (x : α) :
    (apply base (.modify es)).count x = (apply base' (.modify es')).count x :=
  C19.arr_order_free base base' es es' (fun y => hb.count_eq y) he x

/-- the round trip holds whatever order the hash maps were built in -/
theorem roundtrip_any_order {α : Type} [DecidableEq α] (prev prev' cur cur' : List α) (hp : prev.Perm prev') (hc : cur.Perm cur')
    (d : Diff α) (h : hashcmp Gen.fewMax prev' cur' = some d) (x : α) : (apply prev d).count x = cur.count x := by
  have h1 := C11.roundtrip prev' cur' d h x
  cases d with
  | replace r => rw [hc.count_eq x]; exact h1
  | modify es =>
    rw [hc.count_eq x, ← h1]
    exact C19.arr_order_free prev prev' es es (fun y => hp.count_eq y) (List.Perm.refl _) x

/-- enabling `debug_asserts` cannot introduce a panic in the comparison -/
theorem debug_asserts_inert {α : Type} [DecidableEq α] (prev cur : List α) : (hashcmpA Gen.fewMax prev cur).2 = true :=
  C11.debug_asserts_unreachable prev cur

/-- the same for the flat map-like comparison (maps: unique keys), both equality modes -/
theorem debug_asserts_inert_map {κ ν : Type} [DecidableEq κ] [DecidableEq ν] (prev cur : List (κ × ν))
    (hp : UMap.UniqueKeys prev) (hc : UMap.UniqueKeys cur) (b : Bool) : (UMap.hashcmpA prev cur b).2 = true :=
  UMap.hashcmpA_snd prev cur hp hc b

/-- hasher independence, flat map-like: the diff computed from (prev, cur) applied to ANY list representing the
same map as prev (any iteration order) gives a map equal to cur -/
theorem hasher_independent_map {κ ν : Type} [DecidableEq κ] [DecidableEq ν] (prev cur base : List (κ × ν))
    (hp : UMap.UniqueKeys prev) (hc : UMap.UniqueKeys cur) (hb : UMap.UniqueKeys base)
    (hbp : ∀ k, UMap.plookup base k = UMap.plookup prev k) (b : Bool) (d : UMap.Diff κ ν)
    (h : UMap.hashcmp prev cur b = some d) (k : κ) : UMap.plookup (UMap.apply base d) k = UMap.plookup cur k :=
  (C12.roundtrip_follower prev cur base hp hc hb hbp b d h).2 k

end C16
