import SdModel.Lemmas.LevSelf
import SdModel.Props.C08

/-!
# C07 — ordered list diff round trip: source patched with diff(target, source) = target

`Lev.hirschberg` / `Lev.levenshtein` model the two public algorithms (`eq` is an ARBITRARY Boolean relation:
no reflexivity, symmetry or transitivity is assumed, which covers `PartialEq` types such as `f64`).
`Lev.PW eq r t` : `r` and `t` have the same length and every `r[k]` is `t[k]` itself (a written element) or a
kept source element with `eq t[k] r[k] = true` — "equal element-by-element to the target under the element
type's own equality".  The constants (costs, cutoff) are the ones regenerated from the source on this run; the
theorems need only `costs ≥ 1`, which `decide` checks.
-/
namespace C07
open Lev Script
variable {α : Type}

def costs : Costs := ⟨Gen.deleteCost, Gen.replaceCost, Gen.insertCost⟩

/-- side conditions on the constants extracted from the source: every edit costs at least 1
(this is what makes the early exit `changelist.len() == total cost` sound) -/
theorem costs_pos : 1 ≤ costs.D ∧ 1 ≤ costs.R ∧ 1 ≤ costs.I := by decide

/-- the divide-and-conquer algorithm (the one the derive uses): patched source = target, no index out of range -/
theorem roundtrip_hirschberg (eq : α → α → Bool) (t s : List α) :
    match hirschberg eq costs Gen.levCutoff t s with
    | none => PW eq s t
    | some d => ∃ r, runList d s = some r ∧ PW eq r t := by
  have h := hirsch_correct eq costs_pos Gen.levCutoff t s
    0 t.length 0 s.length (Nat.zero_le _) (Nat.zero_le _) (Nat.le_refl _)
  rw [seg_full, seg_full] at h
  unfold hirschberg
  cases hh : hirschImpl eq costs Gen.levCutoff t s 0 t.length 0 s.length with
  | nil => exact (hh ▸ h).of_nil
  | cons c cs => exact (hh ▸ h).run

theorem roundtrip_levenshtein (eq : α → α → Bool) (t s : List α) :
    match levenshtein eq costs t s with
    | none => PW eq s t
    | some d => ∃ r, runList d s = some r ∧ PW eq r t := by
  have h := lev_correct eq costs_pos t s 0 t.length 0 s.length
  rw [seg_full, seg_full] at h
  unfold levenshtein
  cases hh : levImpl eq costs t s 0 t.length 0 s.length with
  | nil => exact (hh ▸ h).of_nil
  | cons c cs => exact (hh ▸ h).run

/-- composition with C08/C09: the REAL application path (collect the source into a rope, apply every change
through the rope, iterate out) gives that same list and never panics — into any collection, since the
result is produced by the rope's consuming iterator -/
theorem roundtrip_on_rope (eq : α → α → Bool) (t s : List α) (d : List (Change α))
    (h : hirschberg eq costs Gen.levCutoff t s = some d ∨ levenshtein eq costs t s = some d) :
    ∃ r, Script.apply Gen.ropeParams d s = .ok r ∧ PW eq r t := by
  obtain ⟨r, h1, h2⟩ : ∃ r, runList d s = some r ∧ PW eq r t := by
    rcases h with h | h
    · have := roundtrip_hirschberg eq t s
      rwa [h] at this
    · have := roundtrip_levenshtein eq t s
      rwa [h] at this
  exact ⟨r, C08.script_rope_eq_list d s r h1, h2⟩

/-- `PW` with a reflexive `eq` is element-wise equality under `eq` -/
theorem PW_iff_of_refl (eq : α → α → Bool) (hrefl : ∀ x, eq x x = true) (a b : List α) :
    PW eq a b ↔ a.length = b.length ∧ ∀ k (h1 : k < b.length) (h2 : k < a.length), eq b[k] a[k] = true := by
  constructor
  · intro h
    induction h with
    | nil => simp
    | cons hx _ ih =>
      refine ⟨congrArg Nat.succ ih.1, fun k h1 h2 => ?_⟩
      cases k with
      | zero => exact hx.elim (fun e => e ▸ hrefl _) id
      | succ k => exact ih.2 k (Nat.lt_of_succ_lt_succ h1) (Nat.lt_of_succ_lt_succ h2)
  · rintro ⟨hl, hk⟩
    induction a generalizing b with
    | nil =>
      obtain rfl := List.eq_nil_of_length_eq_zero hl.symm
      exact .nil
    | cons x xs ih =>
      cases b with
      | nil => cases hl
      | cons y ys =>
        exact .cons (.inr (hk 0 (Nat.zero_lt_succ _) (Nat.zero_lt_succ _)))
          (ih ys (Nat.succ.inj hl) fun k h1 h2 => hk (k + 1) (Nat.succ_lt_succ h1) (Nat.succ_lt_succ h2))

/-- the diff is absent ONLY when the sequences are element-wise equal (both algorithms) -/
theorem absent_only_if_equal (eq : α → α → Bool) (t s : List α)
    (h : hirschberg eq costs Gen.levCutoff t s = none ∨ levenshtein eq costs t s = none) : PW eq s t := by
  rcases h with h | h
  · have := roundtrip_hirschberg eq t s
    rwa [h] at this
  · have := roundtrip_levenshtein eq t s
    rwa [h] at this

/-- conversely, for a reflexive element equality identical sequences give NO diff (both algorithms): in the
divide-and-conquer driver the split chosen from the two last rows is the diagonal one at every level -/
theorem absent_if_identical (eq : α → α → Bool) (hrefl : ∀ x, eq x x = true) (t : List α) :
    hirschberg eq costs Gen.levCutoff t t = none ∧ levenshtein eq costs t t = none :=
  ⟨hirschberg_self eq hrefl costs_pos _ t, levenshtein_self eq hrefl costs t⟩

theorem PW_eq_of_lawful [DecidableEq α] (a b : List α) (h : PW (fun x y => decide (x = y)) a b) : a = b := by
  induction h with
  | nil => rfl
  | cons hx _ ih =>
    rcases hx with rfl | hx
    · rw [ih]
    · rw [ih, of_decide_eq_true hx]

/-- for a lawful equality (`==` is `=`): the diff is absent exactly when source and target are equal.
(Reflexivity is needed for "if": with `f64`'s `NaN != NaN` the list `[NaN]` differs from itself, and the code
then emits a `Replace`; the correspondence check exercises that case.) -/
theorem absent_iff_eq [DecidableEq α] (t s : List α) :
    hirschberg (fun a b => decide (a = b)) costs Gen.levCutoff t s = none ↔ s = t := by
  constructor
  · intro h
    exact PW_eq_of_lawful s t (absent_only_if_equal (fun a b => decide (a = b)) t s (.inl h))
  · rintro rfl
    exact (absent_if_identical _ (by simp) s).1

end C07
