import SdModel.Lemmas.UArr
import SdModel.Lemmas.UMap
import SdModel.Gen.Params

/-!
# C20 — unordered diffs carry only what changed; no replacement unless it shrinks
-/
namespace C20
open UArr
variable {α : Type} [DecidableEq α]

abbrev F := Gen.fewMax

/-- a change list mentions every item at most once (hence at most once per direction and never in both),
with exactly the multiplicity delta, and never an item whose multiplicity is the same on both sides -/
theorem arr_modify (prev cur : List α) (es : List (Change α)) (h : hashcmp F prev cur = some (.modify es)) :
    (es.map changeItem).Nodup ∧
    (∀ e ∈ es, (isInsert e = true → changeCount e = cur.count (changeItem e) - prev.count (changeItem e) ∧
                                  prev.count (changeItem e) < cur.count (changeItem e)) ∧
               (isInsert e = false → changeCount e = prev.count (changeItem e) - cur.count (changeItem e) ∧
                                   cur.count (changeItem e) < prev.count (changeItem e))) ∧
    (∀ x, prev.count x ≠ cur.count x → x ∈ es.map changeItem) := by
  rw [hashcmp_eq_modify h]
  have c := nodup_modifyEntries F prev cur
  refine ⟨c, fun e he => ?_, fun x hx => ?_⟩
  · obtain ⟨t1, t2⟩ := totals_of_mem c he
    obtain ⟨a, b⟩ := totals_modifyEntries F prev cur (changeItem e)
    have := pos_modifyEntries F prev cur e he
    exact ⟨fun hi => have t := (a.symm.trans t1).trans (if_pos hi); ⟨t.symm, Nat.lt_of_sub_pos (t ▸ this)⟩,
      fun hi => have t := (b.symm.trans t2).trans (if_neg (ne_true_of_eq_false hi)); ⟨t.symm, Nat.lt_of_sub_pos (t ▸ this)⟩⟩
  · apply Classical.byContradiction
    intro hm
    obtain ⟨z1, z2⟩ := totals_eq_zero hm
    obtain ⟨a, b⟩ := totals_modifyEntries F prev cur x
    exact hx (Nat.le_antisymm (Nat.le_of_sub_eq_zero (b ▸ z2)) (Nat.le_of_sub_eq_zero (a ▸ z1)))

/-- a full replacement carries exactly the new collection -/
theorem arr_replace (prev cur r : List α) (h : hashcmp F prev cur = some (.replace r)) : ∀ x, r.count x = cur.count x := by
  intro x
  rw [(hashcmp_eq_replace h).1, count_expand_collect]

/-- `distinct l` : the number of distinct items (the collected map has exactly one entry per distinct item) -/
def distinct (l : List α) : Nat := (collect l).length

theorem distinct_spec (l : List α) : ((collect l).map (·.1)).Nodup ∧ ∀ x, x ∈ (collect l).map (·.1) ↔ x ∈ l :=
  ⟨nodup_keys_collect l, mem_keys_collect l⟩

/-- if the new collection has at least as many distinct items as the old one, the diff is a change list;
in general a replacement is chosen exactly when `distinct cur < distinct prev - distinct cur` -/
theorem replace_iff (prev cur : List α) :
    (∃ r, hashcmp F prev cur = some (.replace r)) ↔ (distinct cur : Int) < (distinct prev : Int) - (distinct cur : Int) :=
  ⟨fun ⟨_, h⟩ => (hashcmp_eq_replace h).2, fun h => ⟨_, by simp only [hashcmp, hashcmpA_eq]; rw [if_pos (by exact h)]⟩⟩

theorem no_replace_unless_shrinks (prev cur : List α) (h : distinct prev ≤ distinct cur) (r : List α) :
    hashcmp F prev cur ≠ some (.replace r) := by
  intro hh
  have := (replace_iff prev cur).mp ⟨r, hh⟩
  omega

section MapLike
open UMap
variable {κ ν : Type} [DecidableEq κ] [DecidableEq ν]

/-- what a change list may say about one key, given the key's state on both sides:
(total removed, total inserted, first inserted value) -/
def keySpec (p c : Option ν) : Nat × Nat × Option ν :=
  match p, c with
  | none, none => (0, 0, none)
  | none, some v => (0, 1, some v)
  | some _, none => (1, 0, none)
  | some pv, some v => if pv = v then (0, 0, none) else (1, 1, some v)

/-- a change list says, per key, exactly what changed: nothing for an identical pair, one insertion of the
new pair for an added key, one removal for a removed key, remove-old plus insert-new for a changed value;
and every entry has a positive count, so no key is mentioned more often than these totals -/
theorem map_modify (prev cur : List (κ × ν)) (hp : UniqueKeys prev) (hc : UniqueKeys cur) (b : Bool)
    (es : List (Change κ ν)) (h : UMap.hashcmp prev cur b = some (.modify es)) :
    (∀ k, (remTot es k, insTot es k, insVal es k) = keySpec (plookup prev k) (plookup cur k)) ∧
    (∀ e ∈ es, 0 < cnt e) := by
  rw [UMap.hashcmp_eq_modify h, coll_unique b _ hp, coll_unique b _ hc]
  refine ⟨fun k => ?_, pos_entriesOf _ _ (nodup_ones hp) (nodup_ones hc) (pos_ones _) (pos_ones _)⟩
  refine (obs_entriesOf _ _ (nodup_ones hp) (nodup_ones hc) k).trans ?_
  rw [lookup_ones, lookup_ones]
  cases plookup prev k <;> cases plookup cur k <;> rfl

/-- a full replacement carries exactly the new map -/
theorem map_replace (prev cur : List (κ × ν)) (hc : UniqueKeys cur) (b : Bool) (r : List (κ × ν))
    (h : UMap.hashcmp prev cur b = some (.replace r)) : UniqueKeys r ∧ ∀ k, plookup r k = plookup cur k := by
  rw [(UMap.hashcmp_eq_replace h).1, coll_unique b _ hc]; exact expand_ones cur _ (nodup_ones hc) (lookup_ones cur)

/-- if the new map has at least as many keys as the old one, the diff is a change list -/
theorem map_no_replace_unless_shrinks (prev cur : List (κ × ν)) (hp : UniqueKeys prev) (hc : UniqueKeys cur) (b : Bool)
    (hlen : prev.length ≤ cur.length) (r : List (κ × ν)) : UMap.hashcmp prev cur b ≠ some (.replace r) := by
  intro h
  have := (UMap.hashcmp_eq_replace h).2
  rw [coll_unique b _ hp, coll_unique b _ hc, length_ones, length_ones] at this
  omega

end MapLike

end C20
