import SdModel.Lemmas.DeriveKnot

/-!
# C02 — replication: a follower applying the leader's successive diffs never diverges

`(relTy t).equiv leader follower` : equal on unskipped plain / ordered / enum fields, unordered collections
equal as multisets / maps, nested values equivalent recursively; NOTHING is required of skipped fields or of the
element order of unordered collections (for key-only recursive maps: the key sets agree).
The follower applies `diff(s₀, s₁), diff(s₁, s₂), …` computed by the leader on ITS OWN states.
Theorem: every application returns normally and after every step the follower is again equivalent to the leader —
by induction over a state sequence of arbitrary length; and the follower's own skipped fields never change.
-/
namespace C02
open Derive

def followers (S : TySem) : Val → Val → List Val → Except String (List Val)
  | _, _, [] => .ok []
  | prev, f, s :: rest =>
    match S.apply f (S.diff prev s) with
    | .ok f' =>
      match followers S s f' rest with
      | .ok fs => .ok (f' :: fs)
      | .error m => .error m
    | .error m => .error m

/-- state by state: the follower is well-typed and equivalent to the leader -/
inductive AllEquiv (R : TyRel) : List Val → List Val → Prop
  | nil : AllEquiv R [] []
  | cons {s f ss fs} : R.equiv s f → R.wt f → AllEquiv R ss fs → AllEquiv R (s :: ss) (f :: fs)

/-- replication, carrying along any property `I` of the follower that every step preserves -/
theorem replication_inv {S : TySem} {R : TyRel} (h : TySpec S R) (I : Val → Prop)
    (hI : ∀ f s f', R.wt f → I f → R.post f s f' → I f') (states : List Val) (s0 f0 : Val)
    (h0 : R.wt s0) (hf0 : R.wt f0) (hs : ∀ s ∈ states, R.wt s) (he : R.equiv s0 f0) (hi : I f0) :
    ∃ fs, followers S s0 f0 states = .ok fs ∧ AllEquiv R states fs ∧ ∀ f' ∈ fs, I f' := by
  induction states generalizing s0 f0 with
  | nil => exact ⟨[], rfl, .nil, nofun⟩
  | cons s rest ih =>
    obtain ⟨hsw, hs⟩ := List.forall_mem_cons.mp hs
    obtain ⟨f', h1, h2, h3⟩ := h.follow s0 s f0 h0 hsw hf0 he
    have he' := h.post_equiv f0 s f' hf0 hsw h2 h3
    have hi' := hI f0 s f' hf0 hi h3
    obtain ⟨fs, h4, h5, h6⟩ := ih s f' hsw h2 hs he' hi'
    exact ⟨f' :: fs, by simp only [followers, h1, h4], .cons he' h2 h5, List.forall_mem_cons.mpr ⟨hi', h6⟩⟩

/-- **C02** for any type, any starting pair, any history -/
theorem replication (t : Ty) (states : List Val) (s0 f0 : Val)
    (h0 : (relTy t).wt s0) (hf0 : (relTy t).wt f0) (hs : ∀ s ∈ states, (relTy t).wt s)
    (he : (relTy t).equiv s0 f0) :
    ∃ fs, followers (semTy t) s0 f0 states = .ok fs ∧ AllEquiv (relTy t) states fs := by
  obtain ⟨fs, h1, h2, _⟩ :=
    replication_inv (spec_ty t) (fun _ => True) (fun _ _ _ _ _ _ => trivial) states s0 f0 h0 hf0 hs he trivial
  exact ⟨fs, h1, h2⟩

/-- the same when the leader ships `diff_ref` (converted) instead of `diff` -/
theorem replication_ref (t : Ty) (states : List Val) (s0 f0 : Val)
    (h0 : (relTy t).wt s0) (hf0 : (relTy t).wt f0) (hs : ∀ s ∈ states, (relTy t).wt s)
    (he : (relTy t).equiv s0 f0) :
    ∃ fs, followers { semTy t with diff := (semTy t).diffRef } s0 f0 states = .ok fs ∧ AllEquiv (relTy t) states fs := by
  rw [show ({ semTy t with diff := (semTy t).diffRef } : TySem) = semTy t by rw [(spec_ty t).diffRef_eq]]
  exact replication t states s0 f0 h0 hf0 hs he

def skippedVals : FS → Vals → List Val
  | (true, _, _) :: fs, .cons v vs => v :: skippedVals fs vs
  | (false, _, _) :: fs, .cons _ vs => skippedVals fs vs
  | _, _ => []

theorem spost_skipped (fs : FS) (x y z : Vals) (h : SPost fs x y z) : skippedVals fs z = skippedVals fs x := by
  fun_induction SPost fs x y z with
  | case1 => rfl
  | case2 sk _ _ fs f fr b bs r rs ih =>
    cases sk with
    | true => exact h.1 ▸ congrArg (r :: ·) (ih h.2)
    | false => exact ih h.2
  | case3 => exact h.elim

def skippedOf (fs : FieldTys) : Val → List Val
  | .strct vs => skippedVals (relFields fs) vs
  | _ => []

/-- after every step of any history the follower's skipped fields are those it started with -/
theorem follower_skipped_fixed (fts : FieldTys) (states : List Val) (s0 f0 : Val)
    (h0 : (relTy (.struct fts)).wt s0) (hf0 : (relTy (.struct fts)).wt f0) (hs : ∀ s ∈ states, (relTy (.struct fts)).wt s)
    (he : (relTy (.struct fts)).equiv s0 f0) :
    ∃ fs, followers (semTy (.struct fts)) s0 f0 states = .ok fs ∧ ∀ f' ∈ fs, skippedOf fts f' = skippedOf fts f0 := by
  obtain ⟨fs, h1, _, h3⟩ := replication_inv (spec_ty (.struct fts)) (fun f => skippedOf fts f = skippedOf fts f0)
    (fun f s f' _ hi hp => by
      obtain ⟨x, y, z, rfl, rfl, rfl, hp⟩ := hp
      exact (spost_skipped _ x y z hp).trans hi)
    states s0 f0 h0 hf0 hs he rfl
  exact ⟨fs, h1, h3⟩

end C02
