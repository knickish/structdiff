import SdModel.Lemmas.UArr
import SdModel.Gen.Params

/-!
# C11 — unordered array-like diff round trip as multisets, for any multiplicities

`UArr.hashcmp fewMax prev cur` models `unordered_hashcmp`, `UArr.apply` models `apply_unordered_hashdiffs`.
A `HashMap` is an association list with distinct keys in SOME order; every statement is about counts, so it
holds for every iteration order (every hasher) and every container the items are held in.
-/
namespace C11
open UArr
variable {α : Type} [DecidableEq α]

abbrev F := Gen.fewMax

/-- the Few/Many threshold extracted from the source fits the `u8` the Few variants store -/
theorem fewMax_fits : Gen.fewMax ≤ 255 := by decide

/-- no truncation through the count split: whatever representation `new` picks carries exactly the count
(in particular 255 ↦ Few(255), 256 ↦ Many(256)), for the item and direction asked for -/
theorem mkChange_count (x : α) (n : Nat) (d : Dir) :
    changeItem (mkChange F x n d) = x ∧ changeCount (mkChange F x n d) = n ∧ isInsert (mkChange F x n d) = decide (d = .ins) :=
  mkChange_spec F x n d

theorem few_only_when_fits (x : α) (n : Nat) (d : Dir) :
    (mkChange F x n d = .insertFew x n ∨ mkChange F x n d = .removeFew x n) → n ≤ 255 := by
  by_cases h2 : n ≤ F
  · exact fun _ => Nat.le_trans h2 fewMax_fits
  -- above `F`, per direction: a Single is no Few, a Many is no Few
  · cases d <;> simp only [mkChange, if_neg h2] <;> split <;> rintro (h | h) <;> cases h

/-- **C11**: whichever representation is chosen, previous patched with the diff is current as a multiset -/
theorem roundtrip (prev cur : List α) (d : Diff α) (h : hashcmp F prev cur = some d) :
    ∀ x, (apply prev d).count x = cur.count x := by
  intro x
  cases d with
  | replace r => rw [(hashcmp_eq_replace h).1, apply, count_expand_collect]
  | modify es =>
    obtain ⟨a, b⟩ := totals_modifyEntries F prev cur x
    rw [hashcmp_eq_modify h, count_apply_modify, a, b, Nat.sub_sub_eq_min, Nat.add_comm, Nat.min_comm, Nat.sub_add_min_cancel]

theorem roundtrip_modify (prev cur : List α) (es : List (Change α)) (h : hashcmp F prev cur = some (.modify es)) :
    ∀ x, (apply prev (.modify es)).count x = cur.count x :=
  roundtrip prev cur _ h

theorem roundtrip_replace (prev cur : List α) (r : List α) (h : hashcmp F prev cur = some (.replace r)) :
    ∀ x, (apply prev (.replace r)).count x = cur.count x :=
  roundtrip prev cur _ h

/-- the diff is absent exactly when the two collections are equal as multisets -/
theorem absent_iff (prev cur : List α) : hashcmp F prev cur = none ↔ ∀ x, prev.count x = cur.count x := by
  rw [hashcmp_none_iff]
  constructor
  · rintro ⟨_, h⟩ x
    obtain ⟨a, b⟩ := totals_modifyEntries F prev cur x
    rw [h] at a b
    exact Nat.le_antisymm (Nat.le_of_sub_eq_zero b.symm) (Nat.le_of_sub_eq_zero a.symm)
  · intro h
    refine ⟨by rw [collect_length_congr prev cur h]; omega, eq_nil_of_totals _ (pos_modifyEntries F prev cur) fun y => ?_⟩
    obtain ⟨a, b⟩ := totals_modifyEntries F prev cur y
    exact ⟨by rw [a, h y, Nat.sub_self], by rw [b, h y, Nat.sub_self]⟩

/-- both representations occur (neither round-trip theorem is vacuous) -/
example : hashcmp F [1, 2, 3, 4, 5, 6, 7] [1] = some (.replace [1]) := by decide
example : hashcmp F [1, 1, 2, 3] [1, 3, 3, 4] = some (.modify [.removeSingle 1, .insertSingle 3, .insertSingle 4, .removeSingle 2]) := by decide

/-- the `debug_asserts` assertions inside the comparison (`count != 0`) can never fire -/
theorem debug_asserts_unreachable (prev cur : List α) : (hashcmpA F prev cur).2 = true :=
  hashcmpA_snd F prev cur

end C11
