import SdModel.Model.Cost
import SdModel.Gen.Params
import SdModel.Lemmas.Lev

/-!
# C18 — the derive's list diff needs memory linear in the list lengths   (cost model; PARTIAL)

What is logic is the SHAPE of the recursion: `Cost.hirschCost` counts the peak number of simultaneously
live table cells under the code's allocation discipline (see `Model/Cost.lean`), on the very recursion of
`Lev.hirschImpl` (same split points).  The theorem bounds it linearly, for all lists, all contents and
whatever split the row computation picks; the byte constants and the allocator are measured by the
correspondence check (`tools/props/c18.py`), not proved.
-/
namespace C18
open Cost Lev
variable {α : Type}

/-- a full table is only ever built with one side within the cutoff (or a target of length < 2): this is the
only place a table of `rows x columns` cells exists -/
theorem full_table_only_small (cutoff tl sl : Nat) (h : min tl sl ≤ cutoff ∨ tl < 2) :
    (tl + 1) * (sl + 1) ≤ (cutoff + 3) * (max tl sl + 1) := by
  rcases Nat.le_total tl sl with hle | hle
  · rw [Nat.max_eq_right hle]
    rw [Nat.min_eq_left hle] at h
    exact Nat.mul_le_mul_right _ (by omega)
  · rw [Nat.max_eq_left hle, Nat.mul_comm]
    rw [Nat.min_eq_right hle] at h
    exact Nat.mul_le_mul (by omega) (by omega)

theorem peak_cells_bound (eq : α → α → Bool) (C : Costs) (cutoff : Nat) (t s : List α) (ts te ss se : Nat) :
    hirschCost eq C cutoff t s ts te ss se ≤ (cutoff + 3) * ((te - ts) + (se - ss) + 1) := by
  fun_induction hirschCost eq C cutoff t s ts te ss se with
  | case1 => exact Nat.zero_le _
  | case2 => exact Nat.zero_le _
  | case3 => exact Nat.zero_le _
  | case4 ts te ss se h1 h2 h3 h4 =>
    exact Nat.le_trans (full_table_only_small cutoff _ _ h4)
      (Nat.mul_le_mul_left _ (Nat.succ_le_succ (Nat.max_le.2 ⟨Nat.le_add_right .., Nat.le_add_left ..⟩)))
  | case5 ts te ss se h1 h2 h3 h4 tsplit left right ssplit ihl ihr =>
    -- past the leaf test both windows are non-empty
    obtain ⟨hts, hss⟩ : ts ≤ te ∧ ss ≤ se := by
      clear ihl ihr h1 h2 h3
      omega
    obtain ⟨htp1, htp2⟩ : ts ≤ tsplit ∧ tsplit ≤ te := add_within hts (Nat.div_le_self ..)
    obtain ⟨hsp1, hsp2⟩ : ss ≤ ssplit ∧ ssplit ≤ se := add_within hss (Nat.min_le_right ..)
    have mono {a b a' b' : Nat} (ha : a ≤ a') (hb : b ≤ b') : (cutoff + 3) * (a + b + 1) ≤ (cutoff + 3) * (a' + b' + 1) :=
      Nat.mul_le_mul_left _ (Nat.succ_le_succ (Nat.add_le_add ha hb))
    refine Nat.max_le.2 ⟨Nat.mul_le_mul (Nat.le_add_left ..) (Nat.succ_le_succ (Nat.le_add_left ..)), Nat.max_le.2 ⟨?_, ?_⟩⟩
    · exact Nat.le_trans ihl (mono (Nat.sub_le_sub_right htp2 ts) (Nat.sub_le_sub_right hsp2 ss))
    · exact Nat.le_trans ihr (mono (Nat.sub_le_sub_left htp1 te) (Nat.sub_le_sub_left hsp1 se))

/-- **linear working set**: never more than `(cutoff + 3) * (n + m + 1)` live cells -/
theorem peak_cells_linear (eq : α → α → Bool) (C : Costs) (cutoff : Nat) (t s : List α) (ts te ss se : Nat) :
    ts ≤ te → ss ≤ se →
    hirschCost eq C cutoff t s ts te ss se ≤ (cutoff + 3) * ((te - ts) + (se - ss) + 1) :=
  fun _ _ => peak_cells_bound eq C cutoff t s ts te ss se

/-- the public entry point the derive calls, with the constants regenerated from the source -/
theorem derive_diff_linear (eq : α → α → Bool) (C : Costs) (t s : List α) :
    hirschCost eq C Gen.levCutoff t s 0 t.length 0 s.length ≤ (Gen.levCutoff + 3) * (t.length + s.length + 1) :=
  peak_cells_linear eq C Gen.levCutoff t s 0 t.length 0 s.length (Nat.zero_le _) (Nat.zero_le _)

/-- the bound discriminates: the full-table entry point is quadratic, e.g. 1001 x 1001 cells for two
1000-element lists against at most 22 011 for the divide-and-conquer one -/
theorem levenshtein_quadratic_witness : levCost 1000 1000 = 1002001 ∧ (8 + 3) * (1000 + 1000 + 1) = 22011 := by decide

/-- the cutoff side condition under which the model's extra guard `te - ts < 2` is never the deciding one -/
theorem cutoff_pos : 1 ≤ Gen.levCutoff := by decide

end C18
