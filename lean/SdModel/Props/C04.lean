import SdModel.Lemmas.DeriveIdx

/-!
# C04 — change detection is exact: one entry per changed field, none for unchanged ones

`(relKind k).same` is the equality in the sense of each strategy: the type's own `==` (`Derive.veq`, a partial
equivalence: `-0.0 == 0.0`, `NaN != NaN`) for plain, nested and optional-nested fields, `=` for ordered fields
(the generated code compares with the type's own `!=`, and `hirschberg` returns `None` exactly for
equal lists — `C07.absent_iff_eq`); equal counts for unordered arrays; equal as maps for flat maps; equal key sets
(key-only) / equal maps (key-and-value) for recursive maps.
-/
namespace C04
open Derive

/-- **C04 (struct)**: the entry indices are strictly increasing — declaration order, so at most one entry per
field — and position `j` has an entry exactly when field `j` is unskipped and its two values differ in the sense of
its strategy -/
theorem struct_entries (fts : FieldTys) (x y : Vals) (hx : SWT (relFields fts) x) (hy : SWT (relFields fts) y) :
    let idx := ((semTy (.struct fts)).diff (.strct x) (.strct y)).map (·.1)
    idx.Pairwise (· < ·) ∧
    ∀ j, j ∈ idx ↔ ∃ F R va vb, (relFields fts)[j]? = some (false, F, R) ∧ valAt x j = some va ∧ valAt y j = some vb ∧
      ¬ R.same va vb := by
  intro idx
  have hidx : idx = (sdiffG (·.diff) (fieldsOf (relFields fts)) 0 x y).map (·.1) := by
    simp only [idx, semTy_struct_diff]
  rw [hidx]
  have hiff : ∀ {j F R va vb}, (relFields fts)[j]? = some (false, F, R) → valAt x j = some va → valAt y j = some vb →
      (F.diff va vb = none ↔ R.same va vb) := fun e2 e3 e4 =>
    (spec_fields fts _ (List.mem_of_getElem? e2)).none_iff _ _ (swt_of_valAt hx e2 e3) (swt_of_valAt hy e2 e4)
  refine ⟨(sdiffG_sorted _ _ 0 x y).1, fun j => ⟨fun hj => ?_, ?_⟩⟩
  · obtain ⟨⟨n, p⟩, hmem, rfl⟩ := List.mem_map.mp hj
    obtain ⟨F, R, va, vb, e2, e3, e4, e5⟩ := mem_sdiffG_zero.mp hmem
    exact ⟨F, R, va, vb, e2, e3, e4, fun hsame => nomatch e5.symm.trans ((hiff e2 e3 e4).mpr hsame)⟩
  · rintro ⟨F, R, va, vb, e2, e3, e4, hne⟩
    cases hd : F.diff va vb with
    | none => exact absurd ((hiff e2 e3 e4).mp hd) hne
    | some p => exact List.mem_map.mpr ⟨(j, p), mem_sdiffG_zero.mpr ⟨F, R, va, vb, e2, e3, e4, hd⟩, rfl⟩

/-- `a.diff(&a)` is empty whenever equality on the fields is reflexive (`a == a` under the derived `PartialEq`: no
`NaN` inside) — for every type -/
theorem self_empty (t : Ty) (a : Val) (ha : (relTy t).wt a) (hr : veq a a = true) : (semTy t).diff a a = [] :=
  (spec_ty t).self a ha hr

/-- … and the hypothesis is needed: a plain field holding `NaN` is reported by `a.diff(&a)` -/
theorem self_nonempty_nan :
    (semTy (.struct (.cons false .plain .nil))).diff (.strct (.cons (.atom nanCode) .nil)) (.strct (.cons (.atom nanCode) .nil)) ≠ [] := by
  decide

/-- **C04 (enum)**: empty iff `a == b` (the enum's own `PartialEq`), otherwise a single whole-value replacement -/
theorem enum_diff (a b : Val) : (semTy .enum).diff a b = if veq a b then [] else [(0, .val b)] := rfl

/-- `diff_ref` reports exactly the same entries -/
theorem diff_ref_same (t : Ty) (a b : Val) : (semTy t).diffRef a b = (semTy t).diff a b := (spec_ty t).ref_eq a b

theorem same_plain (a b : Val) : (relKind .plain).same a b ↔ veq a b = true := Iff.rfl
theorem same_recurse (t : Ty) (a b : Val) : (relKind (.recurse t)).same a b ↔ veq a b = true := Iff.rfl
theorem same_recurseOpt (t : Ty) (a b : Val) : (relKind (.recurseOpt t)).same a b ↔ veq a b = true := Iff.rfl
theorem same_ordered (a b : Val) : (relKind .ordered).same a b ↔ a = b := Iff.rfl
theorem same_unord (a b : Val) : (relKind .unordArr).same a b ↔ ∀ x, (asList a).count x = (asList b).count x :=
  Iff.rfl
theorem same_map (ko : Bool) (a b : Val) :
    (relKind (.map ko)).same a b ↔ ∀ k, UMap.plookup (asPairs a) k = UMap.plookup (asPairs b) k := Iff.rfl
theorem same_recMap (ko : Bool) (t : Ty) (a b : Val) :
    (relKind (.recMap ko t)).same a b ↔
      (∀ k, (RMap.kget (asRMap a) k).isSome = (RMap.kget (asRMap b) k).isSome) ∧
      (ko = false → ∀ k pv cv, RMap.kget (asRMap a) k = some pv → RMap.kget (asRMap b) k = some cv → veq pv cv = true) := Iff.rfl

end C04
